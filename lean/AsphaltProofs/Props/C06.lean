/-
C06 — waiting for a resource during startup has no lost or false wake-ups.
Two layers: (a) the start-up LTS (AsphaltModel/Startup.lean), where a blocked lookup can
return exactly when a matching resource or factory is there; (b) the waiter protocol
(AsphaltModel/Waiter.lean) — the mechanism of ComponentContext.get_resource over a bounded
event queue — for which the absence of lost wake-ups is proved for every interleaving of
publications and waiter steps.
-/
import AsphaltModel.Waiter
import AsphaltProofs.Lemmas.Startup

namespace Asphalt
open St

/-- No false wake-up: a lookup returns only what is published under exactly that (type, name):
the published object, or the product of the factory published under it. -/
theorem C06_no_false (s s' : SSt) (i : Nat) (k : Key) (v : Val) (h : step? s (.got i k v) = some s') :
    alookup k s.res = some v ∨
      (alookup k s.res = none ∧ ∃ fid, alookup k s.fac = some fid ∧ v = .gen 0 fid 0) := by
  cases Step.of_step? h with
  | got _ _ _ hlk =>
    rcases lookup_inv hlk with ⟨hv, _⟩ | ⟨hn, fid, hf, hv, _⟩
    · exact .inl hv
    · exact .inr ⟨hn, fid, hf, hv⟩

/-- It is the lookup the component asked for (same type, same name), and the component was
blocked in it. -/
theorem C06_answers_request (s s' : SSt) (i : Nat) (k : Key) (v : Val)
    (h : step? s (.got i k v) = some s') :
    ∃ ph ty name rest, s.current i = some (ph, .await ty name :: rest, some k) := by
  cases Step.of_step? h with
  | got _ hcur => exact ⟨_, _, _, _, hcur⟩

/-- No lost wake-up (LTS level): as soon as a matching resource or factory is there, the blocked
lookup can return — whatever else is going on. -/
theorem C06_enabled_when_published (s : SSt) (i : Nat) (ph : StartPhase) (ty : TypeId) (name : String)
    (rest : List Act) (k : Key) (hcur : s.current i = some (ph, .await ty name :: rest, some k))
    (hrep : s.reported = false) (hlive : s.live = true)
    (hpub : (alookup k s.res).isSome = true ∨ (alookup k s.fac).isSome = true) :
    ∃ v, (step? s (.got i k v)).isSome = true := by
  obtain ⟨v, s1, hlk⟩ :=
    lookup_avail.mpr (hpub.imp (alookup_isSome_iff k _).mp (alookup_isSome_iff k _).mp)
  exact ⟨v, Option.isSome_of_eq_some (Step.got hrep hcur hlive hlk).to_step?⟩

/-- Neither released nor failed by anything else: while nothing is published under exactly that
(type, name) the lookup cannot return, whatever has been published under other types or names. -/
theorem C06_not_released_by_others (s : SSt) (i : Nat) (k : Key) (v : Val)
    (hres : alookup k s.res = none) (hfac : alookup k s.fac = none) :
    step? s (.got i k v) = none := by
  cases hs : step? s (.got i k v) with
  | none => rfl
  | some s' =>
    cases Step.of_step? hs with
    | got _ _ _ hlk =>
      rw [lookup_none.2 ⟨hres, hfac⟩] at hlk
      cases hlk

/-- A publication under another key leaves the wanted key absent. -/
theorem C06_other_publication (s s' : SSt) (j : Nat) (ty : TypeId) (name : String) (v : Nat) (k : Key)
    (c : CompSpec) (ph : StartPhase) (rest : List Act) (b : Option Key)
    (hspec : s.spec? j = some c) (hcur : s.current j = some (ph, rest, b))
    (hne : k ≠ ⟨ty, publishName (phaseOf ph) c.dflt name⟩)
    (hres : alookup k s.res = none) (hstep : step? s (.pub j ty name v) = some s') :
    alookup k s'.res = none := by
  cases Step.of_step? hstep with
  | pub _ hc' hcur' =>
    rw [hspec] at hc'
    cases hc'
    rw [hcur] at hcur'
    cases hcur'
    show alookup k (s.res ++ _) = none
    rw [alookup_append, hres]
    simp only [Option.orElse_none, alookup_cons, alookup_nil]
    rw [if_neg (fun e => hne e.symm)]

/-- What is published stays published (so an enabled lookup stays enabled until it is taken). -/
theorem C06_published_stays (s s' : SSt) (l : Lab) (k : Key) (hstep : step? s l = some s') :
    ((alookup k s.res).isSome = true → (alookup k s'.res).isSome = true) ∧
    ((alookup k s.fac).isSome = true → (alookup k s'.fac).isSome = true) :=
  ⟨fun h => (Option.isSome_iff_exists.mp h).elim fun _ hv => Option.isSome_of_eq_some (step?_res_stable hstep hv),
    fun h => (Option.isSome_iff_exists.mp h).elim fun _ hv => Option.isSome_of_eq_some (step?_fac_stable hstep hv)⟩

/-- With optional=True the lookup never waits: it answers immediately with what is there now. -/
theorem C06_optional_immediate (s : SSt) (i : Nat) (ph : StartPhase) (ty : TypeId) (name : String)
    (rest : List Act) (hcur : s.current i = some (ph, .awaitOpt ty name :: rest, none))
    (hrep : s.reported = false) (hlive : s.live = true) :
    (step? s (.gotOpt i ⟨ty, name⟩ ((s.lookup ⟨ty, name⟩).map Prod.fst))).isSome = true ∧
      ∀ v s', step? s (.gotOpt i ⟨ty, name⟩ v) = some s' → v = (s.lookup ⟨ty, name⟩).map Prod.fst := by
  constructor
  · cases hlk : s.lookup ⟨ty, name⟩ with
    | none => rw [Option.map_none, (Step.gotOptNone (k := ⟨ty, name⟩) hrep hcur hlive hlk).to_step?]; rfl
    | some p => rw [Option.map_some, (Step.gotOptSome (k := ⟨ty, name⟩) hrep hcur hlive hlk).to_step?]; rfl
  · intro v s' hs
    cases Step.of_step? hs with
    | gotOptSome _ _ _ hlk => rw [hlk]; rfl
    | gotOptNone _ _ _ hlk => rw [hlk]; rfl

/-- The protocol invariant: whenever the wanted resource is there and the waiter has not returned,
an event is on its way to it (queued, or handed over) — it is never blocked for good. -/
def WInvariant (s : WSt) : Prop :=
  (s.present = true → (s.phase = .armed ∨ s.phase = .waiting) → (0 < s.buf ∨ s.handed = true)) ∧
  (s.phase = .waiting → 0 < s.buf → s.handed = true) ∧
  (s.phase ≠ .waiting → s.handed = false) ∧ s.buf ≤ s.cap

theorem wrun_preserves {P : WSt → Prop} (hstep : ∀ s op, P s → P (wstep s op)) (s : WSt)
    (ops : List WOp) (h : P s) : P (wrun s ops) := by
  induction ops generalizing s with
  | nil => exact h
  | cons op ops ih => exact ih _ (hstep s op h)

theorem wstep_sum (s : WSt) (op : WOp) :
    (wstep s op).cap = s.cap ∧ (s.present = true → (wstep s op).present = true) ∧
      (s.phase = .done → (wstep s op).phase = .done) ∧
      ((wstep s op).phase = .done → s.phase = .done ∨ (wstep s op).present = true) := by
  fun_cases wstep s op <;> grind

theorem wstep_cap (s : WSt) (op : WOp) : (wstep s op).cap = s.cap := (wstep_sum s op).1

theorem wrun_cap (s : WSt) (ops : List WOp) : (wrun s ops).cap = s.cap :=
  wrun_preserves (P := fun t => t.cap = s.cap) (fun t op h => (wstep_cap t op).trans h) s ops rfl

theorem winv_step (s : WSt) (op : WOp) (hcap : 0 < s.cap) (h : WInvariant s) : WInvariant (wstep s op) := by
  -- a finite case check: every branch of `wstep` (three operations, four phases, `handed`, `buf`
  -- against 0 and `cap`) against the four clauses of the invariant
  obtain ⟨present, phase, buf, handed, cap⟩ := s
  obtain ⟨h1, h2, h3, h4⟩ := h
  cases op <;> cases phase <;> simp only [wstep] <;> grind [WInvariant]

theorem winv_init (cap : Nat) (p0 : Bool) : WInvariant (WSt.init cap p0) := by
  simp [WInvariant, WSt.init]

/-- `WInvariant` with its side condition, in the form `wrun_preserves` takes. -/
theorem winv_step' (s : WSt) (op : WOp) (h : 0 < s.cap → WInvariant s) :
    0 < (wstep s op).cap → WInvariant (wstep s op) := by
  rw [wstep_cap]; exact fun hc => winv_step s op hc (h hc)

theorem C06_waiter_invariant (cap : Nat) (hcap : 0 < cap) (p0 : Bool) (ops : List WOp) :
    WInvariant (wrun (WSt.init cap p0) ops) :=
  wrun_preserves (P := fun s => 0 < s.cap → WInvariant s) winv_step' _ ops (fun _ => winv_init cap p0)
    (by rw [wrun_cap]; exact hcap)

theorem wno_lost (s : WSt) (h : WInvariant s) (hp : s.present = true)
    (hph : s.phase = .armed ∨ s.phase = .waiting) :
    s.runnable = true ∧ (wstep s .run).phase = .done := by
  obtain ⟨present, phase, buf, handed, cap⟩ := s
  simp only [WInvariant] at h hp hph ⊢
  subst hp
  rcases hph with rfl | rfl
  · have hh : handed = false := h.2.2.1 (by simp)
    subst hh
    have hb : buf ≠ 0 := by
      have := h.1 rfl (.inl rfl); simp at this; omega
    simp [WSt.runnable, wstep, hb]
  · have hh : handed = true := by
      rcases h.1 rfl (.inr rfl) with hb | hh
      · exact h.2.1 rfl hb
      · exact hh
    subst hh
    simp [WSt.runnable, wstep]

theorem wdone_step (s : WSt) (op : WOp) (h : s.phase = .done → s.present = true) :
    (wstep s op).phase = .done → (wstep s op).present = true := fun hd =>
  ((wstep_sum s op).2.2.2 hd).elim (fun h0 => (wstep_sum s op).2.1 (h h0)) id

/-- No lost wake-up: in every reachable state where the resource is there and the waiter has asked
but not returned, the waiter is runnable, and running it (at most twice) makes it return. -/
theorem C06_waiter_no_lost (cap : Nat) (hcap : 0 < cap) (p0 : Bool) (ops : List WOp) :
    let s := wrun (WSt.init cap p0) ops
    s.present = true → (s.phase = .armed ∨ s.phase = .waiting) →
      s.runnable = true ∧ ((wstep s .run).phase = .done ∨ (wstep (wstep s .run) .run).phase = .done) := by
  intro s hp hph
  have h := wno_lost s (C06_waiter_invariant cap hcap p0 ops) hp hph
  exact ⟨h.1, .inl h.2⟩

/-- No false wake-up: the waiter returns only when the resource is there, however many unrelated
publications it has seen. -/
theorem C06_waiter_no_false (cap : Nat) (p0 : Bool) (ops : List WOp) :
    (wrun (WSt.init cap p0) ops).phase = .done → (wrun (WSt.init cap p0) ops).present = true :=
  wrun_preserves (P := fun s => s.phase = .done → s.present = true) wdone_step _ ops (by simp [WSt.init])

/-- Once there, always there; once returned, stays returned. -/
theorem C06_waiter_monotone (s : WSt) (op : WOp) :
    (s.present = true → (wstep s op).present = true) ∧ (s.phase = .done → (wstep s op).phase = .done) :=
  ⟨(wstep_sum s op).2.1, (wstep_sum s op).2.2.1⟩

/-- The queue size matters: with a queue of size 0 a wake-up can be lost (the request, then the
publication while the waiter is at its checkpoint, then the waiter blocks for good). -/
theorem C06_waiter_cap_needed :
    let s := wrun (WSt.init 0 false) [.request, .publish true, .run]
    s.present = true ∧ s.phase = .waiting ∧ s.runnable = false := by
  decide

/-- Non-vacuity: the D6 history — the waiter asks, 60 unrelated resources and then the wanted one are
published before it gets to run (queue of 50): it still returns. -/
example :
    (wrun (WSt.init 50 false)
      ([.request, .run] ++ List.replicate 60 (.publish false) ++ [.publish true, .run, .run])).phase = .done := by
  decide +kernel

end Asphalt
