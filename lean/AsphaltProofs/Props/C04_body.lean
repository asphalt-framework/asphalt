/-
C04 — lookups awaited by teardown callbacks (`BodyOp.get`) return what the context already holds without calling
a factory again; a first generation made there is stored like any other.
-/
import AsphaltProofs.Lemmas.Ext

namespace Asphalt

/-- What the context holds under the key (generated earlier, say) is what the callback gets; no factory is
called and nothing changes. -/
theorem C04_body_get_existing (cid : CtxId) (cur : Option CtxId) (x : Ctx) (ty : TypeId) (name : String)
    (opt : Bool) (cont : Container) (hs : x.state.usable = true)
    (h : alookup ⟨ty, name⟩ x.res = some cont) :
    runBodyOp cid cur x (.get ty name opt) = (x, [.val cont.val]) := by
  exact (lookup_hit cid x ⟨ty, name⟩ opt cont hs h).2.2

/-- A first generation made by a callback's awaited lookup (an asynchronous factory that does not suspend, or a
synchronous one) stores the object under the requested key, so that a second lookup of either kind in the same
teardown returns the same object without another call. -/
theorem C04_body_get_then_same (cid : CtxId) (cur : Option CtxId) (x : Ctx) (ty : TypeId) (name : String)
    (opt opt' : Bool) (f : Factory) (hs : x.state.usable = true)
    (hmiss : alookup ⟨ty, name⟩ x.res = none) (hf : alookup ⟨ty, name⟩ x.fac = some f)
    (hname : f.name = name) (hty : ty ∈ f.types)
    (hnp : x.pending.find? (fun p => p.fid = f.fid) = none) (hng : (f.isAsync && f.gated) = false)
    (hok : f.failFirst ≤ countOf f.fid x.callCount) :
    let v := Val.gen cid f.fid (countOf f.fid x.callCount)
    let x' := (runBodyOp cid cur x (.get ty name opt)).1
    (runBodyOp cid cur x (.get ty name opt)).2.head? = some (.val v) ∧
    runBodyOp cid cur x' (.get ty name opt') = (x', [.val v]) ∧
    (f.isAsync = false → runBodyOp cid cur x' (.getNowait ty name opt') = (x', [.val v])) := by
  intro v x'
  subst hname
  -- the first lookup takes the generation path; the product is then registered under the key
  have hgen := ctxGetNow_gen cid x ⟨ty, f.name⟩ opt f hs hmiss hf hnp hng
  rw [if_neg (Nat.not_lt.mpr hok)] at hgen
  have hx' : x' = (generate cid x f).1 := by
    show (ctxGetNow cid x ⟨ty, f.name⟩ opt).1 = _
    rw [hgen]
  have hk : alookup ⟨ty, f.name⟩ x'.res = some ⟨v, freeTypes (bumpCall x f) f, f.name, f.desc, true⟩ := by
    rw [hx']; exact storeGenerated_stores cid (bumpCall x f) f v ty (mem_freeTypes.mpr ⟨hty, hmiss⟩)
  have hs' : x'.state.usable = true := by rw [hx', ((ext_closed cid).generate x f).state]; exact hs
  obtain ⟨e1, _, e3⟩ := lookup_hit cid x' ⟨ty, f.name⟩ opt' _ hs' hk
  refine ⟨?_, e3, fun _ => e1⟩
  show (ctxGetNow cid x ⟨ty, f.name⟩ opt).2.head? = _
  rw [hgen, ← hx']
  show some (registeredVal x' _) = _
  rw [registeredVal, hk]

/-- Non-vacuity of `C04_body_get_then_same`: a context being torn down that holds an asynchronous factory for
`(0, "a")` which has not been called yet meets every hypothesis. -/
example :
    let f : Factory := ⟨3, [0], "a", none, true, false, 0⟩
    let x : Ctx := { parent := none, state := .closing, res := [], fac := [(⟨0, "a"⟩, f)], tds := [], children := [],
                     token := none, events := [], pending := [], genCount := [], callCount := [] }
    x.state.usable = true ∧ alookup ⟨0, "a"⟩ x.res = none ∧ alookup ⟨0, "a"⟩ x.fac = some f ∧ f.name = "a" ∧
      0 ∈ f.types ∧ x.pending.find? (fun p => p.fid = f.fid) = none ∧ (f.isAsync && f.gated) = false ∧
      f.failFirst ≤ countOf f.fid x.callCount := by
  decide +kernel

end Asphalt
