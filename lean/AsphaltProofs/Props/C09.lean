/-
C09 — task factories: inherited context, exact handle set, teardown waits, errors kept.
Over the task-factory LTS (AsphaltModel/Factory.lean).
-/
import AsphaltProofs.Lemmas.Factory

namespace Asphalt

open Fc

def FReach (specs : List BgSpec) (hd : Handler) (snap : List Nat) (s : FSt) : Prop :=
  ∃ ls, FExec (FSt.init specs hd snap) ls s

/-- At every point the live handle set is exactly the spawned tasks that have not finished. -/
theorem C09_handles (specs : List BgSpec) (hd : Handler) (snap : List Nat) (s : FSt)
    (h : FReach specs hd snap s) (x : Nat) :
    x ∈ s.live ↔ (x ∈ s.spawned ∧ s.statusOf x ≠ some .ended) := by
  obtain ⟨ls, hex⟩ := h
  exact (reach_inv specs hd snap ls s hex).handles x

theorem C09_handles_sound (specs : List BgSpec) (hd : Handler) (snap : List Nat) (s : FSt)
    (h : FReach specs hd snap s) (x : Nat) :
    x ∈ s.live → (x ∈ s.spawned ∧ s.statusOf x ≠ some .ended) :=
  (C09_handles specs hd snap s h x).1

/-- … and that is what all_task_handles() returns. -/
theorem C09_observed (s s' : FSt) (hs : List Nat) (hstep : fstep? s (.observed hs) = some s') :
    hs = sortNat s.live ∧ s' = { s with hist := s.hist ++ [.observed hs] } := by
  cases fstep_inv s s' _ hstep with
  | observed => exact ⟨rfl, rfl⟩

/-- Every task runs in a fresh context inheriting from the factory's own context — whoever spawned
it — and sees the snapshot taken when the factory was started. -/
theorem C09_parent (s s' : FSt) (x : Nat) (ok : Bool) (saw : List Nat)
    (hstep : fstep? s (.taskBegan x ok saw) = some s') : ok = true ∧ saw = s.snap := by
  cases fstep_inv s s' _ hstep with
  | taskBegan => exact ⟨rfl, rfl⟩

/-- cancel() ends only that task: nothing about any other task changes. -/
theorem C09_cancel_local (s s' : FSt) (x y : Nat) (hne : y ≠ x) (hstep : fstep? s (.cancelReq x) = some s') :
    s'.statusOf y = s.statusOf y ∧ s'.live = s.live ∧ s'.crashed = s.crashed := by
  cases fstep_inv s s' _ hstep with
  | cancelReq =>
    refine ⟨?_, rfl, rfl⟩
    show (s.setStatus x .cancelAsked).statusOf y = _
    rw [statusOf_setStatus]
    exact if_neg (fun e => hne e.symm)
  | cancelReqLate => exact ⟨rfl, rfl, rfl⟩

/-- A task observes cancellation only if its own handle was cancelled (no crash): in particular
tearing down the owning context never cancels a task. -/
theorem C09_cancel_only_requested (specs : List BgSpec) (hd : Handler) (snap : List Nat) (s s' : FSt)
    (h : FReach specs hd snap s) (hc : s.crashed = []) (x : Nat)
    (hstep : fstep? s (.cancelSeen x) = some s') : FLab.cancelReq x ∈ s.hist := by
  obtain ⟨ls, hex⟩ := h
  cases fstep_inv s s' _ hstep with
  | cancelSeen _ hst => exact (reach_inv specs hd snap ls s hex).asked x hst
  | cancelSeenCrashed _ hne => exact absurd hc hne

/-- wait_finished() returns only once its task has ended. -/
theorem C09_wait (s s' : FSt) (x : Nat) (hstep : fstep? s (.waitReturned x) = some s') :
    s.statusOf x = some .ended := by
  cases fstep_inv s s' _ hstep with
  | waitReturned _ hst => exact hst

/-- Tearing down the owning context waits for all running tasks. -/
theorem C09_teardown_waits (s s' : FSt) (hc : s.crashed = []) (hstep : fstep? s .blockLeft = some s') :
    s.exiting = true ∧ s.live = [] := by
  cases fstep_inv s s' _ hstep with
  | blockLeft _ h => exact h.resolve_right (fun hne => hne hc)

/-- An Exception escaping a task is passed to the handler exactly once … -/
theorem C09_handler_once (specs : List BgSpec) (hd : Handler) (snap : List Nat) (s : FSt)
    (h : FReach specs hd snap s) (x : Nat) :
    (s.hist.filter fun l => match l with | .handlerCalled y _ => y == x | _ => false).length ≤ 1 := by
  obtain ⟨ls, hex⟩ := h
  -- the filter of the statement is `isHC x` written out
  exact ((reach_inv specs hd snap ls s hex).once x).1

/-- … and is swallowed only if the handler returns a truthy value; otherwise it propagates
(unless the task had not started yet: C09_start.lean). -/
theorem C09_handler_verdict (s s' : FSt) (x e : Nat) (hsf : s.startFailure x = false)
    (hstep : fstep? s (.handlerCalled x e) = some s') :
    ∃ truthy, s.handler = .returns truthy ∧ s.statusOf x = some (.raisedPending e) ∧
      (truthy = true → s'.crashed = s.crashed) ∧ (truthy = false → s'.crashed = s.crashed ++ [e]) := by
  cases fstep_inv s s' _ hstep with
  | handlerCalled _ _ t hst hh _ =>
    refine ⟨t, hh, hst, fun ht => ?_, fun ht => ?_⟩ <;> simp [hsf, ht]

/-- Without a handler the exception propagates at once (unless the task had not started yet:
C09_start.lean). -/
theorem C09_no_handler (s s' : FSt) (x e : Nat) (hh : s.handler = .absent) (hsf : s.startFailure x = false)
    (hstep : fstep? s (.taskEnded x (some e)) = some s') : s'.crashed = s.crashed ++ [e] := by
  cases fstep_inv s s' _ hstep with
  | endedCrash => rfl
  | endedStartFail _ _ sp hsp _ hb _ => rw [(startFailure_iff s x).mpr ⟨sp, e, hsp, hb⟩] at hsf; cases hsf
  | endedPending _ _ _ _ _ _ _ _ _ _ ht => rw [hh] at ht; cases ht

/-- The exception of a task that had been cancelled through its handle (raised by its clean-up)
is an exception like any other: it goes to the handler, or propagates at once if there is none. -/
theorem C09_cancelled_exception (s s' : FSt) (x e : Nat) (hst : s.statusOf x = some .cancelled)
    (hstep : fstep? s (.taskEnded x (some e)) = some s') :
    (s.handler = .absent ∧ s'.crashed = s.crashed ++ [e]) ∨
      (∃ t, s.handler = .returns t ∧ s'.statusOf x = some (.raisedPending e)) := by
  -- `hst` only excludes a task that fails before it has started (`Step.endedStartFail`): the same holds of a task
  -- ending with an exception in any other status
  cases fstep_inv s s' _ hstep with
  | endedCrash _ _ _ _ _ _ _ _ hh => exact .inl ⟨hh, rfl⟩
  | endedStartFail _ _ _ _ hst' => rw [hst] at hst'; cases hst'
  | endedPending _ _ _ _ t _ _ _ _ _ hh =>
    refine .inr ⟨t, hh, ?_⟩
    show (s.setStatus x (.raisedPending e)).statusOf x = _
    rw [statusOf_setStatus, if_pos rfl]

/-- What propagates out of the owning root context is exactly what was not swallowed. -/
theorem C09_outcome (s s' : FSt) (leaves : List Nat) (hstep : fstep? s (.outcome leaves) = some s') :
    sortNat leaves = sortNat s.crashed ∧ s.left = true := by
  cases fstep_inv s s' _ hstep with
  | outcome _ hl hv => exact ⟨hv, hl⟩

/-- A task that has finished cannot end again, even after a crash: the second `taskEnded 1 (some 3)`
(label 5) is rejected, because after a crash the `failsWhenCancelled` arm of `fstep?` still asks for a task
that is running or has been asked to cancel. -/
theorem ended_task_cannot_end_again :
    (match faccept (FSt.init [⟨1, .failsWhenCancelled 3⟩] (.returns false) [])
        [.spawn 1, .cancelReq 1, .cancelSeen 1, .taskEnded 1 (some 3), .handlerCalled 1 3,
          .taskEnded 1 (some 3)] 0 with
     | .ok _ => none
     | .error e => some e) = some (5, FLab.taskEnded 1 (some 3)) := by
  decide

/-- Non-vacuity: two tasks, one raising (falsy handler), one still running when the owner is torn down. -/
example :
    let specs : List BgSpec := [⟨1, .endsAfter 1 (some 2)⟩, ⟨2, .endsAfter 9 none⟩]
    let tr : List FLab := [.spawn 1, .taskBegan 1 true [5], .spawn 2, .taskBegan 2 true [5], .observed [1, 2],
      .taskEnded 1 (some 2), .handlerCalled 1 2, .cancelSeen 2, .taskEnded 2 none, .blockLeft, .outcome [2]]
    (match faccept (FSt.init specs (.returns false) [5]) tr 0 with
     | .ok s => s.reported
     | .error _ => false) = true := by
  decide

/-- Non-vacuity: a task that is cancelled through its handle and whose clean-up then raises; the
handler is consulted, returns a falsy value, and the exception reaches the caller. -/
example :
    let specs : List BgSpec := [⟨1, .failsWhenCancelled 3⟩]
    let tr : List FLab := [.spawn 1, .taskBegan 1 true [], .cancelReq 1, .cancelSeen 1, .taskEnded 1 (some 3),
      .handlerCalled 1 3, .exitBegin, .blockLeft, .outcome [3]]
    (match faccept (FSt.init specs (.returns false) []) tr 0 with
     | .ok s => s.reported
     | .error _ => false) = true := by
  decide

end Asphalt
