/-
C06 / C04 (continued) — a factory registered for several types, looked up during start-up: the product is
generated once and stored under every pair of that factory that is still free (`SSt.genKeys`,
`SSt.lookup` in AsphaltModel/Startup.lean).
-/
import AsphaltProofs.Lemmas.Startup

namespace Asphalt

/-- A lookup served by a factory returns that factory's product and stores it under the requested pair … -/
theorem C06_multi_answers (s s' : SSt) (k : Key) (v : Val) (fid : Nat) (hres : alookup k s.res = none)
    (hfac : alookup k s.fac = some fid) (h : s.lookup k = some (v, s')) :
    v = .gen 0 fid 0 ∧ alookup k s'.res = some (.gen 0 fid 0) := by
  rcases St.lookup_inv h with ⟨hv, _⟩ | ⟨_, fid', hf, hv, _⟩
  · rw [hres] at hv; cases hv
  · rw [hfac] at hf; cases hf
    exact ⟨hv, hv ▸ (St.lookup_some h).2⟩

/-- … and under every other pair the same factory was registered for, unless that pair is taken already
(C04_generates_all_types at the level of start-up). -/
theorem C06_multi_all_types (s s' : SSt) (k k' : Key) (v : Val) (fid : Nat) (hres : alookup k s.res = none)
    (hfac : alookup k s.fac = some fid) (hfac' : (k', fid) ∈ s.fac) (hfree : alookup k' s.res = none)
    (h : s.lookup k = some (v, s')) : alookup k' s'.res = some (.gen 0 fid 0) := by
  rcases St.lookup_inv h with ⟨hv, _⟩ | ⟨_, fid', hf, _, rfl⟩
  · rw [hres] at hv; cases hv
  · rw [hfac] at hf; cases hf
    show alookup k' (s.res ++ _) = _
    rw [St.alookup_gen_res, hfree]
    simp only [if_pos hfac']

/-- Nothing that was registered is replaced, and nothing is stored under a pair of another factory. -/
theorem C06_multi_frame (s s' : SSt) (k k' : Key) (v : Val) (h : s.lookup k = some (v, s')) :
    (∀ w, alookup k' s.res = some w → alookup k' s'.res = some w) ∧
      (alookup k' s.res = none → (∀ fid, alookup k s.fac = some fid → (k', fid) ∉ s.fac) → alookup k' s'.res = none) ∧
      s'.fac = s.fac := by
  rcases St.lookup_inv h with ⟨_, rfl⟩ | ⟨_, fid, hf, _, rfl⟩
  · exact ⟨fun _ hw => hw, fun hn _ => hn, rfl⟩
  · refine ⟨?_, ?_, rfl⟩
    · intro w hw
      show alookup k' (s.res ++ _) = _
      rw [St.alookup_gen_res, hw]
    · intro hn hno
      show alookup k' (s.res ++ _) = _
      rw [St.alookup_gen_res, hn]
      simp only [if_neg (hno fid hf)]

/-- Non-vacuity: a factory for (0,"n") and (1,"n"), with (1,"n") free: asking for (0,"n") fills both; with
(1,"n") taken by a resource it is left alone. -/
example :
    let s0 : SSt := { (SSt.init [] false) with fac := [(⟨0, "n"⟩, 7), (⟨1, "n"⟩, 7), (⟨2, "m"⟩, 8)] }
    let s1 : SSt := { s0 with res := [(⟨1, "n"⟩, .static 3)] }
    ((s0.lookup ⟨0, "n"⟩).map (fun r => r.2.res)) =
        some [(⟨0, "n"⟩, .gen 0 7 0), (⟨1, "n"⟩, .gen 0 7 0)] ∧
      ((s1.lookup ⟨0, "n"⟩).map (fun r => r.2.res)) =
        some [(⟨1, "n"⟩, .static 3), (⟨0, "n"⟩, .gen 0 7 0)] := by
  decide +kernel

end Asphalt
