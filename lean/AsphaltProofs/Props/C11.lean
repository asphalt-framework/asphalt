/-
C11 — every (instance, signal attribute) pair is an independent channel.
-/
import AsphaltProofs.Lemmas.Signal

namespace Asphalt
open Sig

/-- Accessing a Signal attribute on an instance always yields the same bound signal for that
instance and attribute (a second access changes nothing). -/
theorem C11_same (w : SigWorld) (i : InstId) (a : String) (k k' : ClsId) :
    let w1 := (sstep w (.access i a k)).1
    sstep w1 (.access i a k') = (w1, (sstep w (.access i a k)).2) := by
  intro w1
  obtain ⟨ch, h1, h2, _⟩ := sstep_access w i a k
  rw [h1]
  exact sstep_access_found k' h2

/-- The bound signal carries that instance, that attribute's name and (when first bound) the
declared event class. -/
theorem C11_carries (w : SigWorld) (i : InstId) (a : String) (k : ClsId) :
    ∃ c ch, (sstep w (.access i a k)).2 = [.chan c] ∧
      ch ∈ (sstep w (.access i a k)).1.chans ∧ ch.id = c ∧ ch.inst = i ∧ ch.attr = a ∧
      ((w.chans.find? fun x => x.inst == i && x.attr == a) = none → ch.evCls = k ∧ ch.subs = []) := by
  obtain ⟨ch, h1, h2, h3⟩ := sstep_access w i a k
  have hp := List.find?_some h2
  rw [key_iff] at hp
  exact ⟨ch.id, ch, h1, List.mem_of_find?_eq_some h2, rfl, hp.1, hp.2, h3⟩

/-- Different attributes or different instances never share a bound signal. -/
theorem C11_distinct (ps : List (ClsId × ClsId)) (w : SigWorld) (hr : SReachable ps w)
    (c1 c2 : Chan) (h1 : c1 ∈ w.chans) (h2 : c2 ∈ w.chans) :
    (c1.id = c2.id → c1 = c2) ∧ (c1.inst = c2.inst → c1.attr = c2.attr → c1 = c2) := by
  have hw := (Inv.of_reachable hr).winv
  exact ⟨hw.idInj c1 h1 c2 h2, hw.keyInj c1 h1 c2 h2⟩

/-- Hence two accesses with different keys return different channels. -/
theorem C11_distinct_access (ps : List (ClsId × ClsId)) (w : SigWorld) (hr : SReachable ps w)
    (i i' : InstId) (a a' : String) (k k' : ClsId) (c c' : ChanId) (hne : i ≠ i' ∨ a ≠ a')
    (h1 : (sstep w (.access i a k)).2 = [.chan c])
    (h2 : (sstep (sstep w (.access i a k)).1 (.access i' a' k')).2 = [.chan c']) : c ≠ c' := by
  obtain ⟨_, ch, e1, m1, rfl, in1, at1, _⟩ := C11_carries w i a k
  obtain ⟨_, ch', e2, m2, rfl, in2, at2, _⟩ := C11_carries (sstep w (.access i a k)).1 i' a' k'
  rw [h1] at e1
  rw [h2] at e2
  cases e1
  cases e2
  intro hcc
  -- both channels are in the world after the second access, where ids are unique
  have hw2 := (Inv.of_reachable ((hr.step w (.access i a k)).step _ (.access i' a' k'))).winv
  cases hw2.idInj ch (access_chans_mono _ i' a' k' m1) ch' m2 hcc
  exact hne.elim (fun h => h (in1.symm.trans in2)) (fun h => h (at1.symm.trans at2))

/-- An event of the wrong class is rejected with TypeError and nothing changes. -/
theorem C11_type (w : SigWorld) (c : ChanId) (ch : Chan) (cls : ClsId) (n : Nat)
    (hc : w.chan? c = some ch) (hcls : isSubCls w.parents 16 cls ch.evCls = false) :
    sstep w (.dispatch (some c) cls n) = (w, [.typeError]) := by
  simp only [sstep, hc, hcls, Bool.not_false, if_true]

/-- An event dispatched on one channel is delivered only to that channel's subscribers. -/
theorem C11_isolated (ps : List (ClsId × ClsId)) (w : SigWorld) (hr : SReachable ps w)
    (c : ChanId) (ch : Chan) (cls : ClsId) (n : Nat) (s : StreamId)
    (hc : w.chan? c = some ch) (hs : s ∉ ch.subs) :
    (sstep w (.dispatch (some c) cls n)).1.stream? s = w.stream? s := by
  have hi := Inv.of_reachable hr
  rcases Bool.eq_false_or_eq_true (isSubCls w.parents 16 cls ch.evCls) with hcls | hcls
  · rw [sstep_dispatch_ok n hc hcls]
    exact hi.dispatch_stream? (chan?_some_mem hc) cls n s hs
  · rw [C11_type w c ch cls n hc hcls]

/-- Subscribers of a channel are exactly the open streams that listed it. -/
theorem C11_subscribers (ps : List (ClsId × ClsId)) (w : SigWorld) (hr : SReachable ps w)
    (ch : Chan) (hch : ch ∈ w.chans) (s : StreamId) :
    s ∈ ch.subs ↔ ∃ st, st ∈ w.streams ∧ st.id = s ∧ st.opened = true ∧ ch.id ∈ st.chans :=
  (Inv.of_reachable hr).winv.subsIff ch hch s

/-- Using a signal through the class instead of an instance raises UnboundSignal, whatever the
operation, and nothing changes. -/
theorem C11_unbound (w : SigWorld) (cls : ClsId) (n : Nat) (s : StreamId) (chans : List ChanId)
    (f : Filter) (cap : Nat) (once : Bool) :
    sstep w .accessClass = (w, [.unbound]) ∧ sstep w (.dispatch none cls n) = (w, [.unbound]) ∧
      sstep w (.subscribe s chans f cap once true) = (w, [.unbound]) := by
  refine ⟨rfl, rfl, ?_⟩
  simp only [sstep, if_true]

/-- Non-vacuity (finding D4 of DESIGN.md section 9): two signals on one instance, a subscriber on each; an event on
each reaches only its own subscriber, and the second signal refuses an event of the first one's class. -/
example :
    let ops : List SOp := [.access 0 "sa" 0, .access 0 "sb" 1, .subscribe 0 [0] .all 5 false false,
                           .subscribe 1 [1] .all 5 false false, .dispatch (some 0) 0 1,
                           .dispatch (some 1) 1 1, .dispatch (some 1) 0 1]
    let r := srun (SigWorld.empty []) ops
    (r.1.streams.map fun st => st.buf.map Ev.seq) = [[0], [1]] ∧
      r.2.getLast? = some [.typeError] := by
  decide +kernel

end Asphalt
