/-
C10 — events reach exactly the active subscribers, exactly once, in dispatch order.
Refinement of the queue state of every stream to its ghost history (`offered`, `accepted`,
`lost`, `taken`, `delivered`) over the model in AsphaltModel/Signal.lean. Every operation
of that model is atomic, so quantifying over all reachable worlds (`SReachable`) is
quantifying over all interleavings of subscribing, dispatching, consuming and leaving.
-/
import AsphaltProofs.Lemmas.Signal

namespace Asphalt
open Sig

/-- Between steps no consumer holds an undelivered hand-over. -/
theorem C10_settled (ps : List (ClsId × ClsId)) (w : SigWorld) (hr : SReachable ps w)
    (st : Stream) (hst : st ∈ w.streams) : st.handed = none :=
  (Inv.of_reachable hr).handed_none st hst

/-- What the consumer has taken out, followed by what is still queued, is exactly what was
accepted (offered and not overflowed), in order — while the stream is open; afterwards what
was taken is a prefix of it. -/
theorem C10_queue (ps : List (ClsId × ClsId)) (w : SigWorld) (hr : SReachable ps w)
    (st : Stream) (hst : st ∈ w.streams) :
    (st.opened = true → st.taken ++ st.buf = st.accepted) ∧ st.taken <+: st.accepted := by
  have h := (Inv.of_reachable hr).winv.st st hst
  exact ⟨h.queue, h.pre⟩

/-- The queue never holds more than its size. -/
theorem C10_bounded (ps : List (ClsId × ClsId)) (w : SigWorld) (hr : SReachable ps w)
    (st : Stream) (hst : st ∈ w.streams) : st.buf.length ≤ st.cap :=
  ((Inv.of_reachable hr).winv.st st hst).bounded

/-- Every offered event is either accepted or lost, never both, order kept. -/
theorem C10_accepted_or_lost (ps : List (ClsId × ClsId)) (w : SigWorld) (hr : SReachable ps w)
    (st : Stream) (hst : st ∈ w.streams) :
    (st.accepted ++ st.lost).Perm st.offered ∧ st.accepted.Sublist st.offered ∧
      st.lost.Sublist st.offered := by
  have h := (Inv.of_reachable hr).winv.st st hst
  exact ⟨h.perm, h.accSub, h.lostSub⟩

/-- What is yielded to the consumer's code is exactly the part of what it took out that passes
its filter. -/
theorem C10_deliver (ps : List (ClsId × ClsId)) (w : SigWorld) (hr : SReachable ps w)
    (st : Stream) (hst : st ∈ w.streams) :
    st.delivered = st.taken.filter st.filter.pass :=
  have hi := Inv.of_reachable hr
  (hi.winv.st st hst).delivered_eq (hi.handed_none st hst)

/-- Exactly once, in dispatch order: the sequence numbers offered to (hence delivered by) a
stream are strictly increasing. -/
theorem C10_once_in_order (ps : List (ClsId × ClsId)) (w : SigWorld) (hr : SReachable ps w)
    (st : Stream) (hst : st ∈ w.streams) :
    (st.offered.map Ev.seq).Pairwise (· < ·) ∧ (st.delivered.map Ev.seq).Pairwise (· < ·) := by
  have hi := Inv.of_reachable hr
  have h := hi.winv.st st hst
  have hs := h.offered_sorted hi.winv.logSeq
  exact ⟨hs, List.Pairwise.sublist ((h.delivered_sublist (hi.handed_none st hst)).map Ev.seq) hs⟩

/-- Offered = dispatched on one of the stream's signals between entering and leaving it. -/
theorem C10_offered_exact (ps : List (ClsId × ClsId)) (w : SigWorld) (hr : SReachable ps w)
    (st : Stream) (hst : st ∈ w.streams) :
    st.offered = w.log.filter fun e =>
      st.chans.contains e.chan && decide (st.subAt ≤ e.seq) &&
        (match st.leftAt with | none => true | some n => decide (e.seq < n)) :=
  ((Inv.of_reachable hr).winv.st st hst).offered

/-- Every dispatched event is stamped with the dispatching instance and the attribute name. -/
theorem C10_stamp (ps : List (ClsId × ClsId)) (w : SigWorld) (hr : SReachable ps w)
    (e : Ev) (he : e ∈ w.log) :
    ∃ ch, ch ∈ w.chans ∧ ch.id = e.chan ∧ e.source = ch.inst ∧ e.topic = ch.attr :=
  (Inv.of_reachable hr).winv.stamp e he

/-- When a subscriber's queue is full, only that subscriber loses only that event, and a
warning is issued. -/
theorem C10_overflow (st : Stream) (e : Ev) (hw : st.waiting = false) (hfull : st.cap ≤ st.buf.length) :
    offer st e = ({ st with offered := st.offered ++ [e], lost := st.lost ++ [e] }, [.warn st.id]) :=
  offer_full e hw hfull

/-- A waiting consumer is handed the event directly; otherwise it is queued while there is room. -/
theorem C10_accept (st : Stream) (e : Ev) (h : st.waiting = true ∨ st.buf.length < st.cap) :
    (offer st e).2 = [] ∧ (offer st e).1.accepted = st.accepted ++ [e] ∧ (offer st e).1.lost = st.lost := by
  fun_cases offer st e
  · exact ⟨rfl, rfl, rfl⟩
  · exact ⟨rfl, rfl, rfl⟩
  · next hw hr => exact (h.elim hw hr).elim

/-- Subscribers are served independently: what a dispatch does to one stream depends only on
that stream's own state — a full, slow, finished or gone subscriber affects nobody else. -/
theorem C10_independent (e : Ev) (subs : List StreamId) (w : SigWorld) (s : StreamId)
    (hnd : subs.Nodup) (hids : (w.streams.map Stream.id).Nodup) :
    (dispatchTo e subs w).1.stream? s =
      if s ∈ subs then (w.stream? s).map fun st => (offer st e).1 else w.stream? s := by
  obtain ⟨k, h, _⟩ := dispatchTo_fst e subs w hnd hids
  unfold SigWorld.stream?
  rw [h]
  show (w.streams.map (offerMap e subs)).find? _ = _
  rw [find?_id_map fun x => (offerMap_frame e subs x).1]
  cases h : w.streams.find? (·.id == s) with
  | none => simp
  | some x =>
    have hid : x.id = s := stream?_some_id (w := w) h
    by_cases hm : s ∈ subs
    · rw [if_pos hm, Option.map_some, Option.map_some, offerMap_of_mem (hid ▸ hm)]
    · rw [if_neg hm, Option.map_some, offerMap_of_not_mem (hid ▸ hm)]

/-- `dispatch` never raises because of any subscriber's state: on a bound signal with an event
of the right class it always succeeds. -/
theorem C10_total (w : SigWorld) (c : ChanId) (ch : Chan) (cls : ClsId) (n : Nat)
    (hc : w.chan? c = some ch) (hcls : isSubCls w.parents 16 cls ch.evCls = true) :
    ∃ rest, (sstep w (.dispatch (some c) cls n)).2 = .ok :: rest ∧
      ∀ o ∈ rest, (∃ s, o = .warn s) ∨ (∃ s ev, o = .got s ev) ∨ (∃ s, o = .left s) := by
  rw [sstep_dispatch_ok n hc hcls]
  exact ⟨_, rfl, List.forall_mem_append.mpr
    ⟨fun o ho => Or.inl (burst_out ch cls n w o ho), fun o ho => Or.inr (settleAll_out _ _ o ho)⟩⟩

/-- One warning per lost event. -/
theorem C10_warnings (ps : List (ClsId × ClsId)) (w : SigWorld) (hr : SReachable ps w) :
    w.warnings = (w.streams.map fun st => st.lost.length).sum :=
  (Inv.of_reachable hr).winv.warn

/-- wait_event returns at most one event, and its stream is left once it has it (hence, by
`C10_left_unsubscribed`, it is gone from every subscriber list afterwards). -/
theorem C10_wait_once (ps : List (ClsId × ClsId)) (w : SigWorld) (hr : SReachable ps w)
    (st : Stream) (hst : st ∈ w.streams) (ho : st.once = true) :
    st.delivered.length ≤ 1 ∧ (st.delivered ≠ [] → st.opened = false) := by
  have hi := Inv.of_reachable hr
  exact ⟨(hi.winv.st st hst).onceLen ho, hi.onceS st hst ho⟩

/-- A stream that was left is in no subscriber list. -/
theorem C10_left_unsubscribed (ps : List (ClsId × ClsId)) (w : SigWorld) (hr : SReachable ps w)
    (st : Stream) (hst : st ∈ w.streams) (hc : st.opened = false) (ch : Chan) (hch : ch ∈ w.chans) :
    st.id ∉ ch.subs := fun hmem =>
  Bool.noConfusion (hc.symm.trans (((Inv.of_reachable hr).winv.mem_subs hch hst).mp hmem).1)

/-- Non-vacuity: two streams on one channel (queue sizes 2 and 1), one consumer waiting and one
not, three dispatches: the waiting one is handed the first event directly and queues the other
two; the other one queues the first and loses the second and third (two warnings). -/
example :
    let ops : List SOp := [.access 0 "sa" 0, .subscribe 0 [0] .all 2 false false,
                           .subscribe 1 [0] .all 1 false false, .pull 0,
                           .dispatch (some 0) 0 1, .dispatch (some 0) 0 1, .dispatch (some 0) 0 1]
    let w := (srun (SigWorld.empty []) ops).1
    (w.streams.map fun st => (st.lost.map Ev.seq, st.delivered.map Ev.seq, st.buf.map Ev.seq)) =
      [([], [0], [1, 2]), ([1, 2], [], [0])] ∧ w.warnings = 2 := by
  decide +kernel

end Asphalt
