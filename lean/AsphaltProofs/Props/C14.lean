/-
C14 — component configuration is a layered deep merge that fully determines the tree.
Model: `initTree`, `normaliseChild`, `publishName` in `AsphaltModel/Config.lean`.
-/
import AsphaltModel.Config
import AsphaltProofs.Lemmas.Assoc
import AsphaltProofs.Lemmas.Config
import AsphaltProofs.Props.C17

namespace Asphalt

/-- A successful `_init_component` constructs the component with the configuration minus
`type`/`components`, from the class its type resolves to, and builds its children from the hard-coded
`add_component` calls deep-merged with, and overridden by, the external `components` section. -/
theorem C14_root_inv (env : InitEnv) (fuel : Nat) (path : String) (config : Dict) (dflt : String)
    (t : CompTree) (h : initTree env (fuel + 1) path config dflt = .ok t) :
    ∃ ty cid cdef kids,
      alookup "type" (aerase "components" config) = some ty ∧
      resolveType env path ty = .ok cid ∧ env.classes cid = some cdef ∧ cdef.ctorFails = false ∧
      initChildren env fuel path (mergeOpt (some cdef.children) (componentsOf config)) = .ok kids ∧
      t = .node path cid (aerase "type" (aerase "components" config)) dflt kids := by
  rw [initTree] at h
  split at h
  · rename_i ty h1
    rw [pure_bind, Except.bind_eq_ok] at h
    obtain ⟨cid, h2, h⟩ := h
    split at h
    · rename_i cdef h3
      simp only [pure_bind] at h
      split at h
      · cases h
      · rw [Except.bind_eq_ok] at h
        obtain ⟨kids, h5, h⟩ := h
        cases h
        exact ⟨ty, cid, cdef, kids, h1, h2, h3, Bool.eq_false_iff.mpr ‹_›, h5, rfl⟩
    · cases h
  · cases h

/-- Children are created in the order of the merged dictionary, each from its normalised configuration,
with the default resource name taken from the part of the alias after the first `/`. -/
theorem C14_children_inv (env : InitEnv) (fuel : Nat) (path alias : String) (c : Cfg)
    (rest : Dict) (kids : List CompTree)
    (h : initChildren env fuel path ((alias, c) :: rest) = .ok kids) :
    ∃ d t ts,
      normaliseChild (childPath path alias) alias c = .ok d ∧
      initTree env fuel (childPath path alias) d ((afterSlash alias).getD "default") = .ok t ∧
      initChildren env fuel path rest = .ok ts ∧ kids = t :: ts := by
  rw [initChildren] at h
  simp only [Except.bind_eq_ok] at h
  obtain ⟨d, h1, t, h2, ts, h3, h⟩ := h
  cases h
  exact ⟨d, t, ts, h1, h2, h3, rfl⟩

/-- Per alias, the child configuration is: dict/dict → recursive merge, else external, else hard-coded. -/
theorem C14_child_config (hard ext : Dict) (hext : NoDupKeys ext) (alias : String) :
    alookup alias (mergeOpt (some hard) (some ext)) =
      mergedValue (alookup alias hard) (alookup alias ext) :=
  C17_lookup hard ext hext alias

/-- Components that appear only in the external configuration are created too, after the
hard-coded ones. -/
theorem C14_child_order (hard ext : Dict) (hext : NoDupKeys ext) :
    akeys (mergeOpt (some hard) (some ext)) =
      akeys hard ++ (akeys ext).filter (fun k => decide (k ∉ akeys hard)) :=
  C17_keys hard ext hext

/-- No external section (or `None`): exactly the hard-coded children. -/
theorem C14_no_external (hard : Dict) : mergeOpt (some hard) none = hard :=
  C17_none_right (some hard)

/-- A child given as `None` gets the type named by its alias (up to the first `/`). -/
theorem C14_type_from_alias_none (p alias : String) :
    normaliseChild p alias (.atom .none) = .ok [("type", .atom (.str (beforeSlash alias)))] := by
  rfl

/-- A child dictionary without `type` gets the type named by its alias. -/
theorem C14_type_from_alias (p alias : String) (d : Dict) (h : alookup "type" d = none) :
    normaliseChild p alias (.dict d) = .ok (d ++ [("type", .atom (.str (beforeSlash alias)))]) := by
  have hk : "type" ∉ akeys d := (alookup_none_iff _ _).mp h
  have hl : alookup "type" (d ++ [("type", Cfg.atom (.str alias))]) = some (.atom (.str alias)) := by
    rw [alookup_append, h]; rfl
  simp only [normaliseChild, acontains, h, Option.isSome_none, Bool.false_eq_true, if_false, hl,
    ainsert_append_singleton _ _ _ _ hk]

/-- A class object given as type is used as it is. -/
theorem C14_type_class (p alias : String) (d : Dict) (n : Nat)
    (h : alookup "type" d = some (.atom (.cls n))) :
    normaliseChild p alias (.dict d) = .ok d := by
  simp only [normaliseChild, acontains, h, Option.isSome_some, if_true]

/-- The tree depends on the spelling of a type only through what it resolves to. -/
theorem C14_type_equiv (env : InitEnv) (fuel : Nat) (path : String) (config : Dict) (dflt : String)
    (ty1 ty2 : Cfg) (h : resolveType env path ty1 = resolveType env path ty2) :
    initTree env fuel path (ainsert "type" ty1 config) dflt =
      initTree env fuel path (ainsert "type" ty2 config) dflt := by
  cases fuel with
  | zero => rw [initTree, initTree]
  | succ fuel =>
    have hne : "type" ≠ "components" := by decide
    rw [initTree, initTree]
    simp only [componentsOf, alookup_ainsert_other _ _ _ _ hne,
      alookup_ainsert_same, aerase_ainsert_comm _ _ _ _ hne, aerase_ainsert_same, pure_bind, h]

/-- `c ∉ l` in the form `List.takeWhile_append_of_pos` asks for. -/
theorem ne_of_not_mem {c : Char} {l : List Char} (h : c ∉ l) : ∀ a ∈ l, decide (a ≠ c) = true :=
  fun a ha => decide_eq_true fun e : a = c => h (e ▸ ha)

/-- An alias `kind/name` selects type `kind` and default resource name `name`. -/
theorem C14_alias_split (kind nm : String) (h : '/' ∉ kind.toList) :
    beforeSlash (kind ++ "/" ++ nm) = kind ∧ afterSlash (kind ++ "/" ++ nm) = some nm := by
  have hl : (kind ++ "/" ++ nm).toList = kind.toList ++ '/' :: nm.toList := by
    rw [String.toList_append, String.toList_append, List.append_assoc]; rfl
  constructor
  · rw [beforeSlash, hl, List.takeWhile_append_of_pos (ne_of_not_mem h),
      List.takeWhile_cons_of_neg (by simp), List.append_nil, String.ofList_toList]
  · rw [afterSlash, hl, List.dropWhile_append_of_pos (ne_of_not_mem h),
      List.dropWhile_cons_of_neg (by simp)]
    show some (String.ofList nm.toList) = some nm
    rw [String.ofList_toList]

theorem C14_alias_plain (a : String) (h : '/' ∉ a.toList) :
    beforeSlash a = a ∧ afterSlash a = none := by
  have := ne_of_not_mem h
  constructor
  · rw [beforeSlash, ← List.append_nil a.toList, List.takeWhile_append_of_pos this,
      List.takeWhile_nil, List.append_nil, String.ofList_toList]
  · rw [afterSlash, ← List.append_nil a.toList, List.dropWhile_append_of_pos this]
    rfl

/-- `default` is remapped to the alias name in `start()` … -/
theorem C14_publish_start_default (dflt : String) :
    publishName .starting dflt "default" = dflt := by
  simp only [publishName, and_self, if_true]

/-- … but not in `prepare()` … -/
theorem C14_publish_prepare (dflt n : String) : publishName .preparing dflt n = n := by
  simp only [publishName, reduceCtorEq, and_false, if_false]

/-- … and never for explicitly named resources. -/
theorem C14_publish_explicit (ph : CompPhase) (dflt n : String) (h : n ≠ "default") :
    publishName ph dflt n = n := by
  simp only [publishName, h, false_and, if_false]

/-- Non-vacuity: a root with one hard-coded child `db/main` (a=1, opts={x:1}) whose external section
overrides `a`, extends `opts` and adds a config-only child `ep2`. -/
example :
    let env : InitEnv := {
      classes := fun n => if n = 0 then some { children := [("db/main", .dict [("type", .atom (.cls 1)), ("a", .atom (.other "1")), ("opts", .dict [("x", .atom (.other "1"))])])] }
                 else if n ≤ 2 then some { children := [] } else none,
      resolveStr := fun s => if s = "ep2" then some 2 else none }
    initTree env 8 "" [("type", .atom (.cls 0)),
        ("components", .dict [("db/main", .dict [("a", .atom (.other "2")), ("opts", .dict [("y", .atom .none)])]),
                              ("ep2", .atom .none)])] "default"
    = .ok (.node "" 0 [] "default"
        [.node "db/main" 1 [("a", .atom (.other "2")), ("opts", .dict [("x", .atom (.other "1")), ("y", .atom .none)])] "main" [],
         .node "ep2" 2 [] "default" []]) := by
  cbv

end Asphalt
