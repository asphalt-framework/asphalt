/-
C05 (continued) — "because siblings start concurrently, every acyclic pattern of siblings waiting
for each other's resources completes".

*Acyclic* is taken as "some schedule completes" (there is a run of the LTS in which start_component
returns). Then no schedule can get stuck (`C05_no_deadlock`); together with the bound on the length of
outcome-free runs (`C05_bounded`), every maximal fault-free run returns.
`IsProgress` is defined at the head of Lemmas/Deadlock.lean.
-/
import AsphaltProofs.Lemmas.Deadlock

namespace Asphalt
open St Dl

/-- Number of labels a component's script can produce (a waiting lookup produces two). -/
def actsBudget : List Act → Nat
  | [] => 0
  | .await _ _ :: rest => 2 + actsBudget rest
  | _ :: rest => 1 + actsBudget rest

def phaseBudget : Option (List Act) → Nat
  | none => 0
  | some acts => 2 + actsBudget acts

def progBudget (prog : List CompSpec) : Nat :=
  (prog.map fun c => 1 + phaseBudget c.prepare + phaseBudget c.start).sum + 1

/-- The (type, name) pairs a phase publishes under, after the alias rule. -/
def phaseKeys (ph : StartPhase) (dflt : String) : Option (List Act) → List Key
  | none => []
  | some acts => acts.filterMap fun a => match a with
    | .publish ty name _ => some ⟨ty, publishName (phaseOf ph) dflt name⟩
    | .publishFactory ty name _ => some ⟨ty, publishName (phaseOf ph) dflt name⟩
    | _ => none

def publishedKeys (prog : List CompSpec) : List Key :=
  prog.flatMap fun c => phaseKeys .preparing c.dflt c.prepare ++ phaseKeys .starting c.dflt c.start

theorem actsBudget_eq (acts : List Act) : actsBudget acts = actsB acts := by
  induction acts with
  | nil => rfl
  | cons a rest ih => cases a <;> simp [actsBudget, actsB, ih]

theorem phaseBudget_eq (sc : Option (List Act)) : phaseBudget sc = phaseB sc := by
  cases sc with
  | none => rfl
  | some acts => simp [phaseBudget, phaseB, actsBudget_eq]

theorem potL_init (prog : List CompSpec) :
    potL prog (prog.map fun _ => (⟨.notBegun, .notBegun⟩ : NodeSt)) + prog.length + 1 = progBudget prog := by
  simp only [progBudget, phaseBudget_eq]
  induction prog with
  | nil => simp [potL]
  | cons c cs ih =>
    simp only [List.map_cons, potL, nodeRem, rem, List.sum_cons, List.length_cons]
    omega

theorem mem_phaseKeys {c : CompSpec} {p : Bool} {pre post : List Act} {x : Act} {k : Key}
    (hs : scriptAt c p = some (pre ++ x :: post)) (hk : actKey c p x = some k) :
    k ∈ phaseKeys (phOf p) c.dflt (scriptAt c p) := by
  rw [hs]
  exact List.mem_filterMap.mpr ⟨x, by simp, hk⟩

theorem keyUniq_of_nodup {prog : List CompSpec} (h : (publishedKeys prog).Nodup) : KeyUniq prog := by
  intro i j ci cj p q pre1 x1 post1 pre2 x2 post2 k hi hj hs1 hs2 hk1 hk2
  have m1 := mem_phaseKeys hs1 hk1
  have m2 := mem_phaseKeys hs2 hk2
  have hmem : ∀ {c : CompSpec} {p : Bool}, k ∈ phaseKeys (phOf p) c.dflt (scriptAt c p) →
      k ∈ phaseKeys .preparing c.dflt c.prepare ++ phaseKeys .starting c.dflt c.start := by
    intro c p hm
    cases p
    · exact List.mem_append.mpr (.inr hm)
    · exact List.mem_append.mpr (.inl hm)
  have hij : i = j := nodup_flatMap_idx h hi hj (hmem m1) (hmem m2)
  subst hij
  have : cj = ci := by rw [hi] at hj; exact (Option.some.inj hj).symm
  subst this
  have hnd := nodup_flatMap_elem h (List.mem_of_getElem? hi)
  simp only [List.nodup_append] at hnd
  obtain ⟨n1, n2, n3⟩ := hnd
  have hpq : p = q := by
    cases p <;> cases q
    · rfl
    · exact absurd rfl (n3 k m2 k m1)
    · exact absurd rfl (n3 k m1 k m2)
    · rfl
  subst hpq
  refine ⟨rfl, rfl, ?_⟩
  have hn : (phaseKeys (phOf p) cj.dflt (scriptAt cj p)).Nodup := by cases p <;> assumption
  rw [hs1] at hs2 hn
  exact prefix_unique_of_filterMap_nodup hn (Option.some.inj hs2) hk1 hk2

/-- No deadlock: if some schedule lets start_component return, then every state reachable
without an outcome (in particular: without a failure or a time-out) has an enabled start-up
label — whatever schedule led there. (Publications competing for one (type, name) — a conflict,
not a waiting pattern — are excluded: they make the outcome depend on the schedule.) -/
theorem C05_no_deadlock (prog : List CompSpec) (to : Bool) (hwf : wfProg prog = true)
    (hkeys : (publishedKeys prog).Nodup)      -- no two publications compete for one (type, name)
    (hcomplete : ∃ ls₀ s₀, Exec (SSt.init prog to) ls₀ s₀ ∧ s₀.result = some .returned)
    (ls : List Lab) (s : SSt) (h : Exec (SSt.init prog to) ls s) (hres : s.result = none) :
    ∃ l s', IsProgress l ∧ step? s l = some s' := by
  have _ := hwf   -- well-formedness of the tree is not needed for this argument
  exact no_deadlock_core (keyUniq_of_nodup hkeys) hcomplete h hres

/-- Outcome-free runs are bounded by the size of the program. -/
theorem C05_bounded (prog : List CompSpec) (to : Bool) (ls : List Lab) (s : SSt)
    (h : Exec (SSt.init prog to) ls s) (hres : s.result = none) : ls.length ≤ progBudget prog := by
  have := bounded_core h hres
  have := potL_init prog
  simp only [pot, SSt.init] at *
  omega

end Asphalt
