/-
C06, continued — a wait that its caller gives up (`AsphaltModel/WaiterGiveUp.lean`) leaves nothing behind:
the component is unsubscribed, a later request starts afresh, and the guarantees of the protocol (no lost,
no false wake-up) hold in every state the extended machine can reach - any interleaving of requests,
publications, waiter steps and give-ups. Harness: three ticks in ten of the start-up scripts are such waits
(evidence `bounded_wait_given_up`); the tie is through those runs only (partial, like the Waiter model's).
-/
import AsphaltModel.WaiterGiveUp
import AsphaltProofs.Props.C06

namespace Asphalt

/-- Giving a wait up puts the component back where it was before it asked: not subscribed, nothing queued,
nothing handed over. -/
theorem C06_giveup_fresh (s : WSt) (h : s.phase = .armed ∨ s.phase = .waiting) :
    wstep2 s .giveUp = WSt.init s.cap s.present := by
  obtain ⟨present, phase, buf, handed, cap⟩ := s
  rcases h with h | h <;> simp only at h <;> subst h <;> rfl

/-- A component that is not waiting has nothing to give up. -/
theorem C06_giveup_noop (s : WSt) (h : s.phase = .idle ∨ s.phase = .done) : wstep2 s .giveUp = s := by
  obtain ⟨present, phase, buf, handed, cap⟩ := s
  rcases h with h | h <;> simp only at h <;> subst h <;> rfl

/-- `hfresh` is enough for the give-ups: a give-up does nothing or starts afresh. -/
theorem wrun2_preserves {P : WSt → Prop} (hstep : ∀ s op, P s → P (wstep s op))
    (hfresh : ∀ s, P s → P (WSt.init s.cap s.present)) (s : WSt) (ops : List WOp2) (h : P s) :
    P (wrun2 s ops) := by
  induction ops generalizing s with
  | nil => exact h
  | cons op ops ih =>
    refine ih _ ?_
    cases op with
    | base op => exact hstep s op h
    | giveUp =>
      cases hp : s.phase
      case armed => rw [C06_giveup_fresh s (.inl hp)]; exact hfresh s h
      case waiting => rw [C06_giveup_fresh s (.inr hp)]; exact hfresh s h
      case idle => rw [C06_giveup_noop s (.inl hp)]; exact h
      case done => rw [C06_giveup_noop s (.inr hp)]; exact h

/-- The protocol invariant holds in every state reachable with give-ups. -/
theorem C06_giveup_invariant (cap : Nat) (hcap : 0 < cap) (p0 : Bool) (ops : List WOp2) :
    WInvariant (wrun2 (WSt.init cap p0) ops) :=
  wrun2_preserves (P := fun s => 0 < s.cap → WInvariant s) winv_step' (fun s _ _ => winv_init _ _) _ ops
    (fun _ => winv_init cap p0)
    (by rw [wrun2_preserves (P := fun s => s.cap = cap) (fun s op h => (wstep_cap s op).trans h)
          (fun s h => h) _ ops rfl]; exact hcap)

/-- After a give-up whatever happens is what would have happened to a component that asks for the first time:
the history before the give-up is forgotten. -/
theorem C06_giveup_forgets (s : WSt) (h : s.phase = .armed ∨ s.phase = .waiting) (ops : List WOp2) :
    wrun2 s (.giveUp :: ops) = wrun2 (WSt.init s.cap s.present) ops := by
  rw [wrun2, C06_giveup_fresh s h]

/-- After a give-up, publications reach the table and nothing else: the component is not subscribed, nothing
is queued for it, and the publisher is not affected by the stream that was closed. -/
theorem C06_giveup_publish (s : WSt) (h : s.phase = .armed ∨ s.phase = .waiting) (m : Bool) :
    wstep2 (wstep2 s .giveUp) (.base (.publish m)) = WSt.init s.cap (s.present || m) := by
  rw [C06_giveup_fresh s h]
  rfl

/-- No lost wake-up, with give-ups: in every reachable state where the resource is there and the waiter has
asked (again) but not returned, the waiter is runnable and running it makes it return. -/
theorem C06_giveup_no_lost (cap : Nat) (hcap : 0 < cap) (p0 : Bool) (ops : List WOp2) :
    let s := wrun2 (WSt.init cap p0) ops
    s.present = true → (s.phase = .armed ∨ s.phase = .waiting) →
      s.runnable = true ∧ (wstep2 s (.base .run)).phase = .done := by
  intro s hp hph
  exact wno_lost s (C06_giveup_invariant cap hcap p0 ops) hp hph

/-- No false wake-up, with give-ups: the waiter returns only when the resource is there. -/
theorem C06_giveup_no_false (cap : Nat) (p0 : Bool) (ops : List WOp2) :
    (wrun2 (WSt.init cap p0) ops).phase = .done → (wrun2 (WSt.init cap p0) ops).present = true :=
  wrun2_preserves (P := fun s => s.phase = .done → s.present = true) wdone_step
    (fun _ _ h => by cases h) _ ops (by simp [WSt.init])

/-- Non-vacuity (the C06-p history): the component asks, gives up while blocked, a resource it does not want
is published, it asks again, the wanted one is published while it is at its checkpoint: it returns. -/
example :
    let ops : List WOp2 := [.base .request, .base .run, .giveUp, .base (.publish false), .base .request,
      .base (.publish true), .base .run]
    (wrun2 (WSt.init 50 false) [.base .request, .base .run]).phase = .waiting ∧
      (wrun2 (WSt.init 50 false) ops).phase = .done := by
  decide

end Asphalt
