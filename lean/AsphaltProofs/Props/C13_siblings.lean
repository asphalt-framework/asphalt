/-
C13, continued — several children of one parent.

A context keeps a record of the child contexts that were entered from it and are still open
(`Ctx.children`); leaving it while the record is not empty is reported (`C13_children_reported`).
When children come and go in any order, entering adds the child (`C13_child_registered`) and leaving
removes *that* child and nothing else - so what counts when the parent is left is whether any child is
still open, not what the last child to move did.
Model: `removeChild` and the `enter` / `exit` cases of `step` in `AsphaltModel/Context.lean`.
Harness: the `matrix:open-sibling:*` cases of C13 (children entered by different tasks, every order).
-/
import AsphaltProofs.Props.C13

namespace Asphalt
open K2

/-- Leaving a child removes that child - and nothing else - from its parent's record, however the
child's block ended and whatever its teardown did. -/
theorem C13_sibling_exit_removes_only_itself (w : World) (t : TaskId) (c p : CtxId) (be : BlockEnd)
    (x px : Ctx) (hx : w.ctx? c = some x) (hs : x.state = .opened) (hp : x.parent = some p)
    (hne : p ≠ c) (hpx : w.ctx? p = some px) :
    ((step w (.exit t c be)).1.ctx? p).map Ctx.children = some (px.children.filter (· ≠ c)) := by
  rw [step_exit_exitWith, exitWith_ctx?_parent w t c p be _ x hx hs hp hne, hpx]
  rfl

/-- … also when the scope was cancelled while the child's teardown was running. -/
theorem C13_sibling_exit_removes_only_itself_mid (w : World) (t : TaskId) (c p : CtxId) (be : BlockEnd)
    (k : Nat) (x px : Ctx) (hx : w.ctx? c = some x) (hs : x.state = .opened) (hp : x.parent = some p)
    (hne : p ≠ c) (hpx : w.ctx? p = some px) :
    ((step w (.exitMid t c be k)).1.ctx? p).map Ctx.children = some (px.children.filter (· ≠ c)) := by
  rw [step_exitMid_exitWith, exitWith_ctx?_parent w t c p be _ x hx hs hp hne, hpx]
  rfl

theorem mem_filter_ne {l : List CtxId} {c d : CtxId} (hd : d ∈ l) (hdc : d ≠ c) :
    d ∈ l.filter (· ≠ c) :=
  List.mem_filter.mpr ⟨hd, by simpa using hdc⟩

/-- A sibling that is still open stays on the record, and the parent is otherwise as it was. -/
theorem C13_sibling_stays (w : World) (t : TaskId) (c p d : CtxId) (be : BlockEnd)
    (x px : Ctx) (hx : w.ctx? c = some x) (hs : x.state = .opened) (hp : x.parent = some p)
    (hne : p ≠ c) (hpx : w.ctx? p = some px) (hd : d ∈ px.children) (hdc : d ≠ c) :
    ∃ px', (step w (.exit t c be)).1.ctx? p = some px' ∧ d ∈ px'.children ∧ px'.state = px.state ∧
      px'.tds = px.tds ∧ px'.parent = px.parent := by
  rw [step_exit_exitWith, exitWith_ctx?_parent w t c p be _ x hx hs hp hne, hpx]
  exact ⟨_, rfl, mem_filter_ne hd hdc, rfl, rfl, rfl⟩

/-- Hence the C13-p history: two children `c` and `d` of the (non-root) parent `p`, `d` still open; `c` is
left - in whatever way - and then `p` is left normally by its own task: that is reported, exactly as
if `c` had never existed. -/
theorem C13_sibling_open_reported (w : World) (t t' : TaskId) (c p d : CtxId) (be : BlockEnd)
    (x px : Ctx) (hx : w.ctx? c = some x) (hs : x.state = .opened) (hp : x.parent = some p)
    (hne : p ≠ c) (hpx : w.ctx? p = some px) (hps : px.state = .opened) (hptd : px.tds = [])
    (hd : d ∈ px.children) (hdc : d ≠ c) :
    (step (step w (.exit t c be)).1 (.exit t' p .ret)).2.getLast? = some .corruption := by
  refine C13_children_reported _ t' p .ret (dropChild c px) ?_ hps
    (List.ne_nil_of_mem (mem_filter_ne hd hdc)) ?_ (.inl rfl)
  · rw [step_exit_exitWith, exitWith_ctx?_parent w t c p be _ x hx hs hp hne, hpx]; rfl
  · show (runTeardown p _ .ret (effStack .ret px.tds) _).2.2 = []
    rw [hptd, show effStack .ret [] = [] from rfl, runTeardown_nil]

/-- … and when all children have been left, in whatever order, leaving the parent is not reported:
the record of a parent whose only children were `c` and `d` is empty after both have been left. -/
theorem C13_siblings_all_left (w : World) (t t' : TaskId) (c p d : CtxId) (be be' : BlockEnd)
    (x y px : Ctx) (hx : w.ctx? c = some x) (hs : x.state = .opened) (hp : x.parent = some p)
    (hy : w.ctx? d = some y) (hys : y.state = .opened) (hyp : y.parent = some p)
    (hne : p ≠ c) (hne' : p ≠ d) (hcd : c ≠ d) (hpx : w.ctx? p = some px)
    (hch : ∀ e ∈ px.children, e = c ∨ e = d) :
    ((step (step w (.exit t c be)).1 (.exit t' d be')).1.ctx? p).map Ctx.children = some [] := by
  have hy' : (step w (.exit t c be)).1.ctx? d = some y := by
    rw [step_exit_exitWith, exitWith_ctx? w t c be _ x hx hs, if_neg (by rw [hp]; exact fun e => hne' (Option.some.inj e)),
      if_neg hcd, hy]
  rw [step_exit_exitWith (step w _).1, exitWith_ctx?_parent _ t' d p be' _ y hy' hys hyp hne',
    step_exit_exitWith, exitWith_ctx?_parent w t c p be _ x hx hs hp hne, hpx]
  simp only [Option.map_some, dropChild, Option.some.injEq, List.filter_eq_nil_iff, List.mem_filter]
  rintro e ⟨hel, hec⟩
  rcases hch e hel with h | h
  · simp [h] at hec
  · simp [h]

section
unseal runTeardown
/-- Non-vacuity (harness case `matrix:open-sibling:ab:a`): root 1, parent 2, children 3 and 4 entered by
tasks 1 and 2; 4 is left, then 2 is left while 3 is still open: reported. -/
example :
    let ops : List Op := [.new 0 1 none, .enter 0 1, .new 0 2 none, .enter 0 2,
      .new 1 3 (some 2), .new 2 4 (some 2), .enter 1 3, .enter 2 4, .exit 2 4 .ret]
    let w := ops.foldl (fun w op => (step w op).1) World.empty
    (step w (.exit 0 2 .ret)).2.getLast? = some .corruption := by
  rfl
end

end Asphalt
