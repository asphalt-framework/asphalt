/-
C09 (continued) — tasks that never get as far as `task_status.started()`.
`BgBeh.failsBeforeStarted e`: a task started with `start_task` raises Exception `e` while it is still
starting. The exception handler is consulted as for any exception; the error goes to the caller of
`start_task` (label `startFailed`).
(A start that is abandoned by its caller needs no clause of its own: the half-started task is
cancelled with its caller, which is `cancelReq` followed by `cancelSeen`.)
-/
import AsphaltProofs.Props.C09

namespace Asphalt

open Fc

/-- The failure of a task that has not started yet never takes the factory down: neither when it
ends … -/
theorem C09_start_failure_contained (s s' : FSt) (x e : Nat) (hsf : s.startFailure x = true)
    (hstep : fstep? s (.taskEnded x (some e)) = some s') : s'.crashed = s.crashed := by
  obtain ⟨sp, e0, hsp, hb⟩ := (startFailure_iff s x).mp hsf
  cases fstep_inv s s' _ hstep with
  | endedCrash _ _ sp' _ hsp' _ _ hb' =>
    rw [hsp] at hsp'; cases hsp'
    rcases hb' with ⟨d, hb'⟩ | hb' <;> rw [hb] at hb' <;> cases hb'
  | endedStartFail => rfl
  | endedPending => rfl

/-- … nor when the handler has been consulted, whatever its verdict. -/
theorem C09_start_failure_handler (s s' : FSt) (x e : Nat) (hsf : s.startFailure x = true)
    (hstep : fstep? s (.handlerCalled x e) = some s') :
    s'.crashed = s.crashed ∧ s'.statusOf x = some .ended := by
  cases fstep_inv s s' _ hstep with
  | handlerCalled =>
    refine ⟨by simp [hsf], ?_⟩
    show (s.setStatus x .ended).statusOf x = _
    rw [statusOf_setStatus, if_pos rfl]

/-- The caller of `start_task` learns of the failure only for a task that did fail while starting, and
by then the task is finished and its handle is gone from the handle set. -/
theorem C09_start_failed (specs : List BgSpec) (hd : Handler) (snap : List Nat) (s s' : FSt)
    (h : FReach specs hd snap s) (x : Nat) (hstep : fstep? s (.startFailed x) = some s') :
    s.startFailure x = true ∧ s.statusOf x = some .ended ∧ x ∉ s.live ∧ x ∈ s.spawned := by
  obtain ⟨ls, hex⟩ := h
  have hinv := reach_inv specs hd snap ls s hex
  obtain ⟨hsf, hst⟩ : s.startFailure x = true ∧ s.statusOf x = some .ended := by
    cases fstep_inv s s' _ hstep with
    | startFailed _ hst hsf => exact ⟨hsf, hst⟩
  refine ⟨hsf, hst, ?_, hinv.dom x (by rw [hst]; simp)⟩
  intro hl
  exact ((hinv.handles x).1 hl).2 hst

/-- A task of that kind ends in one way only: with its exception, while it is running. -/
theorem C09_start_failure_only (s s' : FSt) (x : Nat) (exc : Option Nat) (e : Nat) (sp : BgSpec)
    (hsp : s.spec? x = some sp) (hb : sp.beh = .failsBeforeStarted e) (hst : s.statusOf x = some .running)
    (hc : s.crashed = []) (hstep : fstep? s (.taskEnded x exc) = some s') : exc = some e := by
  cases fstep_inv s s' _ hstep with
  | endedRet _ sp' st' hsp' hst' hg =>
    rw [hsp] at hsp'; cases hsp'
    rw [hst] at hst'; cases hst'
    rcases hg with hg | hg | ⟨d, hg⟩
    · cases hg
    · exact absurd hc hg
    · rw [hb] at hg; cases hg
  | endedCrash _ _ sp' _ hsp' _ _ hb' =>
    rw [hsp] at hsp'; cases hsp'
    rcases hb' with ⟨d, hb'⟩ | hb' <;> rw [hb] at hb' <;> cases hb'
  | endedStartFail _ _ sp' hsp' _ hb' =>
    rw [hsp] at hsp'; cases hsp'
    rw [hb] at hb'; cases hb'; rfl
  | endedPending _ _ sp' _ _ hsp' _ _ hb' =>
    rw [hsp] at hsp'; cases hsp'
    rcases hb' with ⟨d, hb'⟩ | hb' | hb' <;> rw [hb] at hb' <;> cases hb'
    rfl

/-- Non-vacuity: task 1 fails before started() (falsy handler: consulted, then the caller of start_task
gets the error), task 2 runs on; the handle set is [2] afterwards and nothing reaches the owner. The same
run with a crash reported to the owner is rejected. -/
example :
    let specs : List BgSpec := [⟨1, .failsBeforeStarted 2⟩, ⟨2, .endsAfter 3 none⟩]
    let tr : List FLab := [.spawn 1, .taskBegan 1 true [], .spawn 2, .taskBegan 2 true [], .taskEnded 1 (some 2),
      .handlerCalled 1 2, .startFailed 1, .observed [2], .exitBegin, .taskEnded 2 none, .blockLeft]
    (match faccept (FSt.init specs (.returns false) []) (tr ++ [.outcome []]) 0 with
     | .ok s => s.reported && s.crashed.isEmpty
     | .error _ => false) = true ∧
    (match faccept (FSt.init specs (.returns false) []) (tr ++ [.outcome [2]]) 0 with
     | .ok s => s.reported
     | .error _ => false) = false := by
  decide

end Asphalt
