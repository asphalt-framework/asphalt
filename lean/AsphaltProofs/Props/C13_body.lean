/-
C13 — lookups awaited by teardown callbacks (`BodyOp.get`): while the context is being torn down
`await get_resource()` is still allowed and it is the ordinary lookup. (What it returns: Props/C04_body.lean.)
-/
import AsphaltProofs.Lemmas.Ops

namespace Asphalt

/-- Where it does not suspend, the lookup awaited by a teardown callback is `Context.get_resource`
as any task would see it. -/
theorem C13_body_get_is_get (cid : CtxId) (x : Ctx) (t : TaskId) (k : Key) (opt : Bool)
    (h : (ctxGetNow cid x k opt).2 ≠ [.blocked]) :
    ctxGetNow cid x k opt = ctxGet cid x t k opt := by
  rcases ctxGetNow_cases cid x k opt with ⟨e, _⟩ | e
  · rw [e] at h; exact absurd rfl h
  · exact e t

/-- … and it suspends exactly where that one does. -/
theorem C13_body_get_blocks_iff (cid : CtxId) (x : Ctx) (t : TaskId) (k : Key) (opt : Bool) :
    (ctxGetNow cid x k opt).2 = [.blocked] ↔ (ctxGet cid x t k opt).2 = [.blocked] := by
  rcases ctxGetNow_cases cid x k opt with ⟨e, hb⟩ | e
  · rw [e]; exact ⟨fun _ => hb t, fun _ => rfl⟩
  · rw [e t]

/-- During teardown (state `closing`) an awaited lookup made by a callback is never refused. -/
theorem C13_closing_get_allowed (cid : CtxId) (cur : Option CtxId) (x : Ctx) (hs : x.state = .closing)
    (ty : TypeId) (name : String) (opt : Bool) (s : CState) :
    (runBodyOp cid cur x (.get ty name opt)).2 ≠ [.runtimeError s] := by
  have hu : x.state.usable = true := by rw [hs]; rfl
  show (ctxGetNow cid x ⟨ty, name⟩ opt).2 ≠ [.runtimeError s]
  exact ctxGetNow_transfer (fun r => r.2 ≠ [.runtimeError s]) cid x ⟨ty, name⟩ opt (by simp)
    (fun t => (usable_not_refused cid x hu s).2.2 t _ opt)

section
unseal runTeardown
/-- Non-vacuity: an asynchronous factory, a generation inside the block, and an asynchronous teardown callback
that awaits the same resource: it gets the object generated before (`g1.3.0`), the factory ran once. -/
example :
    let fac : FacArgs := ⟨[0], "a", 3, none, true, false, 0, false⟩
    let cb := Cb.mk 1 false true [.get 0 "a" false] [] none
    let ops : List Op := [.new 0 1 none, .enter 0 1, .addFactory 1 fac, .get 0 1 ⟨0, "a"⟩ false,
                          .addTeardown 1 cb true, .exit 0 1 .ret]
    ∃ o, (run World.empty ops).2.getLast? = some o ∧ Out.body [.val (.gen 1 3 0)] ∈ o := by
  exact ⟨[.tdStart 1 none, .body [.val (.gen 1 3 0)], .tdEnd 1 none, .closed, .exitNormal], rfl,
    List.mem_cons_of_mem _ List.mem_cons_self⟩
end

end Asphalt
