/-
C08 (continued) — service tasks started while the owner is already being torn down.
`Setup.late cb sp`: teardown callback `cb` of the owner starts service task `sp` when it runs
(`tstep?`, case `cbRun`): the task is running from then on and its finalizer is registered on top of
whatever is still to run.
-/
import AsphaltProofs.Props.C08

namespace Asphalt

open Tk


/-- Until the callback that starts it has run, a late task does not exist: it has no status. -/
theorem C08_late_not_before (prog : List Setup) (hd : DistinctIds prog) (cb : Nat) (sp : TaskSpec)
    (hl : Setup.late cb sp ∈ prog) : (TSt.init prog).statusOf sp.tid = none :=
  init_statusOf_late prog hd.1 cb sp hl

/-- When its callback runs, the task is started and its finalizer goes on top of everything that is
still to run … -/
theorem C08_late_started (prog : List Setup) (hd : DistinctIds prog) (s s' : TSt) (h : TReach prog s)
    (hc : s.crashed = []) (cb : Nat) (sp : TaskSpec) (hl : Setup.late cb sp ∈ prog)
    (hstep : tstep? s (.cbRun cb) = some s') :
    (∃ st, s'.statusOf sp.tid = some st) ∧
      (s.statusOf sp.tid = none → (∀ e, s'.statusOf sp.tid ≠ some (.closed e)) → Item.fin sp.tid ∈ s'.stack) := by
  obtain ⟨ls, hex⟩ := h
  have hla : alookup cb s.lates = some sp.tid := by
    rw [(reach_inv2 prog hd.1 hd.2.1 ls s hex hc).lates_eq]; exact init_lates_lookup prog hd.2.2 cb sp hl
  have hsome : s'.statusOf sp.tid ≠ none := cbRun_late_status s s' cb sp.tid hstep hc hla
  have hc' : s'.crashed = [] := tstep_crashed_keep s s' _ hstep hc (by intros; simp)
  have hinv' := tstep_moves Inv Inv.move s s' _ hstep hc' (reach_inv prog ls s hex hc)
  refine ⟨?_, ?_⟩
  · cases hst : s'.statusOf sp.tid with
    | none => exact absurd hst hsome
    | some st => exact ⟨st, rfl⟩
  · intro _ hncl
    apply Decidable.byContradiction
    intro hns
    obtain ⟨⟨e, he⟩, _⟩ := hinv'.gone_st sp.tid hsome hns
    exact hncl e he

/-- … so teardown does not proceed to any other callback of the owner - all of them were registered
earlier - until that task and its context have completely finished. -/
theorem C08_late_before_earlier (prog : List Setup) (hd : DistinctIds prog) (s s' : TSt) (h : TReach prog s)
    (hc : s.crashed = []) (id cb : Nat) (sp : TaskSpec) (hl : Setup.late cb sp ∈ prog)
    (hst : s.statusOf sp.tid ≠ none) (hstep : tstep? s (.cbRun id) = some s') :
    ∃ e, s.statusOf sp.tid = some (.closed e) := by
  obtain ⟨ls, hex⟩ := h
  obtain ⟨popped, r, rest, hpop, hcl⟩ := cbRun_closed prog hd.1 hd.2.1 ls s s' hex hc id hstep
  exact hcl sp.tid hst (fun hmem => init_stack_no_late_fin prog hd.1 cb sp hl
    (hpop ▸ List.mem_append_right _ (List.mem_cons_of_mem _ hmem)))

/-- No late task is still running once the block has been left. -/
theorem C08_late_none_left (prog : List Setup) (hd : DistinctIds prog) (s s' : TSt) (h : TReach prog s)
    (hc : s.crashed = []) (hstep : tstep? s .blockLeft = some s') (cb : Nat) (sp : TaskSpec)
    (hl : Setup.late cb sp ∈ prog) (hst : s.statusOf sp.tid ≠ none) :
    ∃ e, s.statusOf sp.tid = some (.closed e) := by
  have _ := hd; have _ := hl   -- not needed: `Tk.blockLeft_closed` speaks of every task that has a status
  obtain ⟨ls, hex⟩ := h
  exact (blockLeft_closed prog ls s s' hex hc hstep _ hst).1

/-- `start_service_task` returning inside a teardown callback is observed only for a task that has
been started by a callback that ran. -/
theorem C08_late_observed (prog : List Setup) (hd : DistinctIds prog) (s s' : TSt) (h : TReach prog s)
    (hc : s.crashed = []) (tid : Nat) (hstep : tstep? s (.lateStarted tid) = some s') :
    ∃ cb sp, Setup.late cb sp ∈ prog ∧ sp.tid = tid ∧ TLab.cbRun cb ∈ s.hist := by
  obtain ⟨ls, hex⟩ := h
  obtain ⟨s1, n, hcore, _⟩ := tstep_core _ _ _ hstep hc
  cases hcore with
  | lateStarted _ hexi hst hla =>
    have hinv2 := reach_inv2 prog hd.1 hd.2.1 ls s hex hc
    obtain ⟨cb, hl⟩ := hla
    rw [hinv2.lates_eq] at hl
    obtain ⟨sp, hsp, htid⟩ := (mem_init_lates prog cb tid).mp hl
    exact ⟨cb, sp, hsp, htid, hinv2.late_ran cb tid hl hst⟩

/-- A late task sees everything the set-up program added to the owner. -/
theorem C08_late_snapshot (prog : List Setup) (hd : DistinctIds prog) (cb : Nat) (sp : TaskSpec)
    (hl : Setup.late cb sp ∈ prog) : alookup sp.tid (snapshots prog []) = some (resOf prog) := by
  simpa using snapshots_late prog hd.1 cb sp hl []

/-- Non-vacuity: callback 2 starts task 9 (cancelled at teardown, one tick of clean-up); callback 1, registered
earlier, runs only after task 9 and its context have finished. The same run with callback 1 before
`taskClosed 9` is rejected. -/
example :
    let prog : List Setup := [.res 4, .reg 1 none, .reg 2 none, .late 2 ⟨9, .cancel, .untilStopped 1⟩]
    (match taccept (TSt.init prog) [.exitBegin, .cbRun 2, .taskSaw 9 [4], .lateStarted 9, .cancelSeen 9,
        .cleanupTick 9, .taskEnded 9 none, .taskClosed 9, .cbRun 1, .blockLeft, .outcome []] 0 with
     | .ok s => s.reported
     | .error _ => false) = true ∧
    (match taccept (TSt.init prog) [.exitBegin, .cbRun 2, .taskSaw 9 [4], .lateStarted 9, .cancelSeen 9,
        .cleanupTick 9, .taskEnded 9 none, .cbRun 1, .taskClosed 9, .blockLeft, .outcome []] 0 with
     | .ok s => s.reported
     | .error _ => false) = false := by
  decide

end Asphalt
