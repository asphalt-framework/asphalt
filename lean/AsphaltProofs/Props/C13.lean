/-
C13 — context lifecycle: usable only from entry to the end of teardown, entered once.
The state × operation matrix, stated outright over the kernel model (`step`,
`ctxAdd`, `ctxAddFactory`, `ctxGetNowait`, `ctxGet` in AsphaltModel/Context.lean).
-/
import AsphaltProofs.Lemmas.World

namespace Asphalt
open K2

theorem usable_false {x : Ctx} (hs : x.state = .inactive ∨ x.state = .closed) : x.state.usable = false := by
  rcases hs with h | h <;> rw [h] <;> rfl

/-- Before entry and after closing, `add_resource` raises RuntimeError and changes nothing. -/
theorem C13_guard_add (w : World) (c : CtxId) (x : Ctx) (a : AddArgs)
    (hx : w.ctx? c = some x) (hs : x.state = .inactive ∨ x.state = .closed) :
    step w (.add c a) = (w, [.runtimeError x.state]) :=
  onCtx_refused hx (ctxAdd_unusable c x a (usable_false hs))

theorem C13_guard_get_nowait (w : World) (c : CtxId) (x : Ctx) (k : Key) (opt : Bool)
    (hx : w.ctx? c = some x) (hs : x.state = .inactive ∨ x.state = .closed) :
    step w (.getNowait c k opt) = (w, [.runtimeError x.state]) :=
  onCtx_refused hx (ctxGetNowait_unusable c x k opt (usable_false hs))

theorem C13_guard_get (w : World) (t : TaskId) (c : CtxId) (x : Ctx) (k : Key) (opt : Bool)
    (hx : w.ctx? c = some x) (hs : x.state = .inactive ∨ x.state = .closed) :
    step w (.get t c k opt) = (w, [.runtimeError x.state]) :=
  onCtx_refused hx (ctxGet_unusable c x t k opt (usable_false hs))

theorem C13_guard_teardown_callback (w : World) (c : CtxId) (x : Ctx) (cb : Cb) (callable : Bool)
    (hx : w.ctx? c = some x) (hs : x.state = .inactive ∨ x.state = .closed) :
    step w (.addTeardown c cb callable) = (w, [.runtimeError x.state]) :=
  onCtx_refused hx (by dsimp only; rw [usable_false hs]; rfl)

/-- `add_resource_factory` is refused in every state but `open` — also during teardown. -/
theorem C13_guard_add_factory (w : World) (c : CtxId) (x : Ctx) (a : FacArgs)
    (hx : w.ctx? c = some x) (hs : x.state ≠ .opened) :
    step w (.addFactory c a) = (w, [.runtimeError x.state]) :=
  onCtx_refused hx (by show ctxAddFactory c x a = _; rw [ctxAddFactory, if_pos hs])

/-- During teardown the other four operations are still allowed: none of them answers with a
lifecycle error. -/
theorem C13_closing_allowed (cid : CtxId) (x : Ctx) (hs : x.state = .closing) (s : CState) :
    (∀ a, (ctxAdd cid x a).2 ≠ [.runtimeError s]) ∧
    (∀ k opt, (ctxGetNowait cid x k opt).2 ≠ [.runtimeError s]) ∧
    (∀ t k opt, (ctxGet cid x t k opt).2 ≠ [.runtimeError s]) := by
  exact usable_not_refused cid x (by rw [hs]; rfl) s

/-- A context can be entered only once: re-entry while open, closing or closed raises
RuntimeError and changes nothing. -/
theorem C13_enter_once (w : World) (t : TaskId) (c : CtxId) (x : Ctx)
    (hx : w.ctx? c = some x) (hs : x.state ≠ .inactive) :
    step w (.enter t c) = (w, [.runtimeError x.state]) := by
  dsimp only [step]
  rw [hx]
  dsimp only
  rw [if_pos hs]

/-- Entering an inactive context opens it (and `closed` stays false). -/
theorem C13_enter_opens (w : World) (t : TaskId) (c : CtxId) (x : Ctx)
    (hx : w.ctx? c = some x) (hs : x.state = .inactive) :
    ∃ x', (step w (.enter t c)).1.ctx? c = some x' ∧ x'.state = .opened ∧
      closedFlag x'.state = false ∧ (step w (.enter t c)).2 = [.ok] := by
  obtain ⟨ch, hch⟩ := step_enter_ctx w t c x hx hs
  exact ⟨_, hch, rfl, rfl, by rw [step_enter w t c x hx hs]⟩

/-- `closed` is false until teardown begins and true from then on. -/
theorem C13_closed_flag (s : CState) :
    closedFlag s = true ↔ (s = .closing ∨ s = .closed) := by
  cases s <;> simp [closedFlag]

/-- While the teardown callbacks run the context is `closing` (bodies never change the state). -/
theorem C13_state_during_teardown (cid : CtxId) (cur : Option CtxId) (be : BlockEnd) (st : List Cb) (x : Ctx) :
    (runTeardown cid cur be st x).1.state = x.state := by
  exact (runTeardown_ext cid cur be st x).state

/-- … also on the stack of a teardown that is interrupted by a cancellation. -/
theorem C13_state_during_teardown_mid (cid : CtxId) (cur : Option CtxId) (be : BlockEnd) (k : Nat)
    (st : List Cb) (x : Ctx) :
    (runTeardown cid cur be (midEff be k st) x).1.state = x.state :=
  C13_state_during_teardown cid cur be (midEff be k st) x

/-- After the block has been left the context is closed, even if teardown raised. -/
theorem C13_closed_after_exit (w : World) (t : TaskId) (c : CtxId) (be : BlockEnd) (x : Ctx)
    (hx : w.ctx? c = some x) (hs : x.state = .opened) :
    ((step w (.exit t c be)).1.ctx? c).map Ctx.state = some .closed := by
  obtain ⟨x', h, hc, _⟩ := exitWith_closed w t c be (effStack be) x hx hs
  rw [step_exit_exitWith, h, Option.map_some, hc]

/-- … also when the scope was cancelled while the teardown was running. -/
theorem C13_closed_after_exit_mid (w : World) (t : TaskId) (c : CtxId) (be : BlockEnd) (k : Nat)
    (x : Ctx) (hx : w.ctx? c = some x) (hs : x.state = .opened) :
    ((step w (.exitMid t c be k)).1.ctx? c).map Ctx.state = some .closed := by
  obtain ⟨x', h, hc, _⟩ := exitWith_closed w t c be (midEff be k) x hx hs
  rw [step_exitMid_exitWith, h, Option.map_some, hc]

theorem exitWith_children_reported (w : World) (t : TaskId) (c : CtxId) (be : BlockEnd)
    (stk : List Cb → List Cb) (x : Ctx) (hx : w.ctx? c = some x) (hs : x.state = .opened)
    (hch : x.children ≠ [])
    (hnone : (runTeardown c (w.curOf t) be (stk x.tds) { x with state := .closing, tds := [] }).2.2 = [])
    (hroot : be = .ret ∨ x.parent ≠ none) :
    (exitWith w t c be stk).2.getLast? = some .corruption := by
  rw [exitWith_opened w t c be stk x hx hs, hnone, List.getLast?_append,
    exitOutcome_corruption be _ hch
      (hroot.imp_right fun h => Option.isNone_eq_false_iff.mpr (Option.isSome_iff_ne_none.mpr h))]
  rfl

/-- Leaving a context while a child context entered from it is still open is reported as an
error (when teardown itself raised nothing; for a root context the block must have ended
normally — an exception of the block propagates through the root's task group first). -/
theorem C13_children_reported (w : World) (t : TaskId) (c : CtxId) (be : BlockEnd) (x : Ctx)
    (hx : w.ctx? c = some x) (hs : x.state = .opened) (hch : x.children ≠ [])
    (hnone : (runTeardown c (w.curOf t) be (effStack be x.tds) { x with state := .closing, tds := [] }).2.2 = [])
    (hroot : be = .ret ∨ x.parent ≠ none) :
    (step w (.exit t c be)).2.getLast? = some .corruption :=
  exitWith_children_reported w t c be _ x hx hs hch hnone hroot

/-- … also when the scope was cancelled while the teardown was running. -/
theorem C13_children_reported_mid (w : World) (t : TaskId) (c : CtxId) (be : BlockEnd) (k : Nat)
    (x : Ctx) (hx : w.ctx? c = some x) (hs : x.state = .opened) (hch : x.children ≠ [])
    (hnone : (runTeardown c (w.curOf t) be (midEff be k x.tds) { x with state := .closing, tds := [] }).2.2 = [])
    (hroot : be = .ret ∨ x.parent ≠ none) :
    (step w (.exitMid t c be k)).2.getLast? = some .corruption :=
  exitWith_children_reported w t c be _ x hx hs hch hnone hroot

/-- Entering a child registers it with its parent; leaving it removes it again. -/
theorem C13_child_registered (w : World) (t : TaskId) (c p : CtxId) (x px : Ctx)
    (hx : w.ctx? c = some x) (hs : x.state = .inactive) (hp : x.parent = some p) (hne : p ≠ c)
    (hpx : w.ctx? p = some px) :
    ((step w (.enter t c)).1.ctx? p).map Ctx.children = some (px.children ++ [c]) := by
  rw [step_enter_ctx?_parent w t c p x hx hs hp hne, hpx]
  rfl

/-- Non-vacuity: a context that was entered, left with a failing teardown callback, and is then
asked for a resource. -/
example :
    let cb := Cb.mk 1 false false [] [] (some (.exn 0))
    let ops : List Op := [.new 0 1 none, .enter 0 1, .addTeardown 1 cb true,
                          .exit 0 1 .ret, .getNowait 1 ⟨0, "default"⟩ false, .stateOf 1]
    ((run World.empty ops).2.map fun o => o.length) = [1, 1, 1, 4, 1, 1] := by
  decide +kernel

/-- `Context.closed` is true from the beginning of teardown: whatever a teardown callback's body does, and after any
number of callbacks, the flag a callback reads is true. -/
theorem C13_closed_flag_in_callback (cid : CtxId) (cur : Option CtxId) (x : Ctx) (hs : x.state = .closing) (op : BodyOp) :
    closedFlag x.state = true ∧ closedFlag (runBodyOp cid cur x op).1.state = true := by
  rw [(runBodyOp_ext cid cur x op).state, hs]
  exact ⟨rfl, rfl⟩

theorem C13_closed_flag_during_teardown (cid : CtxId) (cur : Option CtxId) (be : BlockEnd) (st : List Cb) (x : Ctx)
    (hs : x.state = .closing) :
    closedFlag (runTeardown cid cur be st x).1.state = true := by
  rw [C13_state_during_teardown, hs]
  rfl

end Asphalt
