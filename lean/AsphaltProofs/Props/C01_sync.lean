/-
C01, continued — cancellation and *synchronous* teardown callbacks.

A synchronous callback has no checkpoint: a cancellation cannot interrupt it, and one that arrives
while it runs (the callback cancels the enclosing scope itself, or another task did so just before)
shows only in what runs afterwards. Model: `Cb.underCancel`, `effStack`, `midStack` / `midEff`
in `AsphaltModel/Context.lean` (the case `isAsync = false` of each). The harness generates these cases as
`cancelAt` = a synchronous, directly registered callback
(evidence: `exit:scope_cancelled_by_a_synchronous_callback`).
-/
import AsphaltProofs.Props.C01_mid

namespace Asphalt

namespace Sy

theorem map_underCancel_of_sync (st : List Cb) (h : ∀ cb ∈ allCbs st, cb.isAsync = false) :
    st.map Cb.underCancel = st := by
  induction st using forest_induction with
  | nil => rfl
  | cons id p a b regs r rest ihr ihs =>
    rw [allCbs_cons] at h
    cases (h _ List.mem_cons_self : a = false)
    rw [List.map_cons, underCancel_sync,
      ihr fun d hd => h d (List.mem_cons_of_mem _ (List.mem_append_left _ hd)),
      ihs fun d hd => h d (List.mem_cons_of_mem _ (List.mem_append_right _ hd))]

theorem mem_allCbs_of_mem (st : List Cb) (c : Cb) (hm : c ∈ st) : c ∈ allCbs st :=
  (C01_exactly_once st).subset ((runOrder_sublist st).subset hm)

section
unseal runOrder
/-- The run of the non-vacuity example at the end of this file. -/
theorem example_run :
    runOrder (midStack 2 [Cb.mk 3 false true [] [] none,
        Cb.mk 2 true false [.current] [] (some (.exn 0)), Cb.mk 1 false true [] [] none]) =
      [Cb.mk 3 false true [] [] none, Cb.mk 2 true false [.current] [] (some (.exn 0)),
        Cb.mk 1 false true [] [] (some .cancelled)] := by
  rfl
end

end Sy

/-- Cancellation changes nothing about a teardown all of whose callbacks - registered before or during
the teardown - are synchronous: however the block ended, the stack behaves as registered. -/
theorem C01_sync_cancel_unaffected (be : BlockEnd) (st : List Cb)
    (h : ∀ cb ∈ allCbs st, cb.isAsync = false) : effStack be st = st :=
  effStack_of_fixed be st (Sy.map_underCancel_of_sync st h)

/-- … and so does a cancellation that arrives in the middle of it. -/
theorem C01_sync_midcancel_unaffected (be : BlockEnd) (k : Nat) (st : List Cb)
    (h : ∀ cb ∈ allCbs st, cb.isAsync = false) : midEff be k st = st := by
  rcases Mid.midEff_cases be k st with rfl | ⟨e, _⟩
  · exact C01_sync_cancel_unaffected (.raised .cancelled) st h
  · rw [e]
    exact Mid.midStack_of_fixed k st (Sy.map_underCancel_of_sync st h) fun c hc =>
      h c (Sy.mem_allCbs_of_mem st c hc)

/-- Hence, for the caller: leaving such a context while the scope gets cancelled is leaving it. -/
theorem C01_sync_midcancel_exit (w : World) (t : TaskId) (c : CtxId) (be : BlockEnd) (k : Nat) (x : Ctx)
    (hx : w.ctx? c = some x) (h : ∀ cb ∈ allCbs x.tds, cb.isAsync = false) :
    step w (.exitMid t c be k) = step w (.exit t c be) := by
  refine step_exitMid_eq_exit w t c be k x hx ?_
  rw [C01_sync_midcancel_unaffected be k _ h, C01_sync_cancel_unaffected be _ h]

/-- A synchronous callback during which the scope is cancelled ends as written: what was above it on
the stack ran as registered, then it runs with its own body and its own outcome (not the
cancellation). -/
theorem C01_sync_midcancel_as_written (k : Nat) (above below : List Cb) (p : Bool) (body : List BodyOp)
    (regs : List Cb) (r : Option Exc) (hab : ∀ cb ∈ above, cb.id ≠ k) :
    ∃ rest, runOrder (midStack k (above ++ Cb.mk k p false body regs r :: below)) =
      runOrder above ++ Cb.mk k p false body (regs.map Cb.underCancel) r :: rest :=
  ⟨_, runOrder_midStack k above below p false body regs r hab⟩

/-- In a cancelled scope a directly registered synchronous callback still runs as written (body,
outcome, argument); only what it registers is subject to the same rule again. -/
theorem C01_sync_survives_cancel (st : List Cb) (cb : Cb) (hm : cb ∈ st) (hs : cb.isAsync = false) :
    ∃ cb' ∈ st.map Cb.underCancel, cb'.id = cb.id ∧ cb'.passExc = cb.passExc ∧ cb'.isAsync = false ∧
      cb'.body = cb.body ∧ cb'.raises = cb.raises ∧
      cb'.registers = cb.registers.map Cb.underCancel := by
  refine ⟨cb.underCancel, List.mem_map_of_mem hm, ?_⟩
  obtain ⟨id, p, a, b, regs, r⟩ := cb
  cases (hs : a = false)
  rw [underCancel_sync]
  exact ⟨rfl, rfl, rfl, rfl, rfl, rfl⟩

/-- If no asynchronous callback is left when a synchronous callback cancels the scope - neither among
what it registers nor below it on the stack - the caller does not see the cancellation at all: the
teardown collects exactly what it would have collected without it. -/
theorem C01_sync_midcancel_invisible (cid : CtxId) (cur : Option CtxId) (be : BlockEnd) (k : Nat)
    (above below : List Cb) (p : Bool) (body : List BodyOp) (regs : List Cb) (r : Option Exc) (x : Ctx)
    (hab : ∀ cb ∈ above, cb.id ≠ k) (hbe : be.isCancel = false)
    (hr : ∀ cb ∈ allCbs regs, cb.isAsync = false) (hb : ∀ cb ∈ allCbs below, cb.isAsync = false) :
    runTeardown cid cur be (midEff be k (above ++ Cb.mk k p false body regs r :: below)) x =
      runTeardown cid cur be (above ++ Cb.mk k p false body regs r :: below) x := by
  rw [Mid.midEff_of_not_cancel be k _ hbe, C01_midcancel_shape k above below p false body regs r hab,
    Sy.map_underCancel_of_sync regs hr, Sy.map_underCancel_of_sync below hb]
  rfl

/-- Non-vacuity: the synchronous #2 cancels the scope; the asynchronous #3 above it ran as registered, #2
ends with its own exception, the asynchronous #1 below it is invoked and cancelled. -/
example :
    let c1 := Cb.mk 1 false true [] [] none
    let c2 := Cb.mk 2 true false [.current] [] (some (.exn 0))
    let c3 := Cb.mk 3 false true [] [] none
    (runOrder (midStack 2 [c3, c2, c1])).map (fun c => (c.id, c.raises)) =
      [(3, none), (2, some (.exn 0)), (1, some .cancelled)] := by
  intro c1 c2 c3
  rw [Sy.example_run]
  rfl

end Asphalt
