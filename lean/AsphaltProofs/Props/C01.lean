/-
C01 — context teardown runs every callback exactly once, LIFO, one at a time.
Model: `runTeardown` and the `exit` case of `step` in
`AsphaltModel/Context.lean`. A callback is a finite program (`Cb`): body operations, then
registrations of further callbacks, then an optional raise; the theorems quantify over all
stacks of such programs (any number, any nesting of registrations-during-teardown, any
subset raising any exception class, sync or async, with or without pass_exception) and
over all ways the block ended. `runOrder` says in which order a stack runs; the theorems about `runTeardown` are
inductions along the same recursion (`stack_induction`).

A block left by cancellation is modelled by `effStack` (Context.lean); the theorems below hold for the
effective stack of every way of leaving the block, and `C01_cancel_*` state what cancellation changes and
what it does not.

Cancellation arriving in the middle of a teardown that began for another reason: C01_mid.lean.
Not modelled: shielded callbacks, callbacks that work before their first checkpoint.
-/
import AsphaltProofs.Lemmas.World
import AsphaltProofs.Lemmas.Cancel

namespace Asphalt
open K2

/-- The order in which the callbacks of a stack (top first) run: the top callback, then
what it registered (last registered first), then the rest of the stack. -/
def runOrder : List Cb → List Cb
  | [] => []
  | cb :: stack =>
    match cb with
    | .mk id p a b regs r => .mk id p a b regs r :: runOrder (regs.reverse ++ stack)
termination_by st => stackSize st
decreasing_by
  simp only [List.unattach_reverse, List.unattach_attach, stackSize_cons, stackSize_append,
    stackSize_reverse, Cb.size_mk]
  omega

/-- All callbacks of a forest, i.e. everything registered before or during the teardown. -/
def allCbs : List Cb → List Cb
  | [] => []
  | cb :: rest =>
    match cb with
    | .mk id p a b regs r => .mk id p a b regs r :: (allCbs regs ++ allCbs rest)

def startsOf : List Out → List (Nat × Option (Option Exc))
  | [] => []
  | .tdStart i a :: rest => (i, a) :: startsOf rest
  | _ :: rest => startsOf rest

def endsOf : List Out → List (Nat × Option Exc)
  | [] => []
  | .tdEnd i r :: rest => (i, r) :: endsOf rest
  | _ :: rest => endsOf rest

/-- A trace in which every callback's start is followed by its own end (with at most its
own body output in between) before anything else happens. -/
def bracketed : List Out → Bool
  | [] => true
  | .tdStart i _ :: .tdEnd j _ :: rest => i == j && bracketed rest
  | .tdStart i _ :: .body _ :: .tdEnd j _ :: rest => i == j && bracketed rest
  | _ => false

theorem runOrder_nil : runOrder [] = [] := by
  rw [runOrder]

theorem runOrder_cons (id : Nat) (p a : Bool) (b : List BodyOp) (regs : List Cb) (r : Option Exc)
    (stack : List Cb) :
    runOrder (Cb.mk id p a b regs r :: stack) =
      Cb.mk id p a b regs r :: runOrder (regs.reverse ++ stack) := by
  rw [runOrder]

theorem allCbs_nil : allCbs [] = [] := by
  rw [allCbs]

theorem allCbs_cons (id : Nat) (p a : Bool) (b : List BodyOp) (regs : List Cb) (r : Option Exc)
    (rest : List Cb) :
    allCbs (Cb.mk id p a b regs r :: rest) = Cb.mk id p a b regs r :: (allCbs regs ++ allCbs rest) := by
  rw [allCbs]

theorem allCbs_append (l₁ l₂ : List Cb) : allCbs (l₁ ++ l₂) = allCbs l₁ ++ allCbs l₂ := by
  induction l₁ with
  | nil => rw [allCbs_nil, List.nil_append, List.nil_append]
  | cons c l ih =>
    obtain ⟨id, p, a, b, regs, r⟩ := c
    rw [List.cons_append, allCbs_cons, allCbs_cons, ih, List.cons_append, List.append_assoc]

theorem allCbs_reverse_perm (l : List Cb) : (allCbs l.reverse).Perm (allCbs l) := by
  induction l with
  | nil => exact List.Perm.refl _
  | cons c l ih =>
    have h : allCbs (c :: l) = allCbs [c] ++ allCbs l := by
      rw [← allCbs_append, List.singleton_append]
    rw [List.reverse_cons, allCbs_append, h]
    exact (List.perm_append_comm).trans (List.Perm.append_left _ ih)

theorem startsOf_append (a b : List Out) : startsOf (a ++ b) = startsOf a ++ startsOf b := by
  fun_induction startsOf a with
  | case1 => rfl
  | case2 i x rest ih => rw [List.cons_append, startsOf, ih, List.cons_append]
  | case3 o rest h ih => rw [List.cons_append, startsOf.eq_3 _ _ h, ih]

theorem endsOf_append (a b : List Out) : endsOf (a ++ b) = endsOf a ++ endsOf b := by
  fun_induction endsOf a with
  | case1 => rfl
  | case2 i x rest ih => rw [List.cons_append, endsOf, ih, List.cons_append]
  | case3 o rest h ih => rw [List.cons_append, endsOf.eq_3 _ _ h, ih]

theorem bracketed_frame (i : Nat) (arg : Option (Option Exc)) (bo : List Out) (r : Option Exc)
    (tr : List Out) :
    bracketed (.tdStart i arg :: (if bo.isEmpty then [] else [.body bo]) ++ .tdEnd i r :: tr) =
      bracketed tr := by
  have h : (i == i && bracketed tr) = bracketed tr := by rw [beq_self_eq_true, Bool.true_and]
  cases bo.isEmpty <;> exact h

theorem runOrder_sublist (st : List Cb) : st.Sublist (runOrder st) := by
  induction st using stack_induction with
  | nil => exact List.nil_sublist _
  | cons id p a b regs r stack ih =>
    rw [runOrder_cons]
    exact ((List.sublist_append_right _ _).trans ih).cons_cons _

theorem runOrder_append (above below : List Cb) :
    runOrder (above ++ below) = runOrder above ++ runOrder below := by
  induction above using stack_induction with
  | nil => rw [List.nil_append, runOrder_nil, List.nil_append]
  | cons id p a b regs r stack ih =>
    rw [List.cons_append, runOrder_cons, runOrder_cons, ← List.append_assoc, ih, List.cons_append]

/-- `st'`: a stack with the keys of the registered one (`effStack`, `midEff`). -/
theorem keys_sublist {st st' : List Cb} (h : st'.map Cb.key = st.map Cb.key) :
    (st.map Cb.key).Sublist ((runOrder st').map Cb.key) :=
  h ▸ (runOrder_sublist st').map Cb.key

theorem invoked_of_keys {st st' : List Cb} (h : st'.map Cb.key = st.map Cb.key) (cb : Cb) (hm : cb ∈ st) :
    ∃ cb' ∈ runOrder st', cb'.id = cb.id ∧ cb'.passExc = cb.passExc ∧ cb'.isAsync = cb.isAsync := by
  obtain ⟨cb', hm', hk⟩ := List.mem_map.1 ((keys_sublist h).subset (List.mem_map_of_mem hm))
  exact ⟨cb', hm', congrArg (·.1) hk, congrArg (·.2.1) hk, congrArg (·.2.2) hk⟩

theorem lifo_of_keys {st st' : List Cb} (h : st'.map Cb.key = st.map Cb.key) :
    (st.map Cb.id).Sublist ((runOrder st').map Cb.id) := by
  have := (keys_sublist h).map Prod.fst
  rwa [List.map_map, List.map_map] at this

/-- Exactly once: the callbacks that run are, as a multiset, exactly the callbacks
registered before or during the teardown. -/
theorem C01_exactly_once (st : List Cb) : (runOrder st).Perm (allCbs st) := by
  induction st using stack_induction with
  | nil => rw [runOrder_nil, allCbs_nil]
  | cons id p a b regs r stack ih =>
    rw [runOrder_cons, allCbs_cons]
    rw [allCbs_append] at ih
    exact List.Perm.cons _ (ih.trans (List.Perm.append_right _ (allCbs_reverse_perm regs)))

/-- Strict LIFO with pass_exception: the sequence of callback invocations is `runOrder`, and
each one receives the block's exception iff it was registered with pass_exception. -/
theorem C01_lifo_and_argument (cid : CtxId) (cur : Option CtxId) (be : BlockEnd) (st : List Cb) (x : Ctx) :
    startsOf (runTeardown cid cur be st x).2.1 =
      (runOrder st).map fun cb => (cb.id, if cb.passExc then some be.exc else none) := by
  induction st using stack_induction generalizing x with
  | nil => rw [runTeardown_nil, runOrder_nil]; rfl
  | cons id p a b regs r stack ih =>
    rw [runTeardown_cons, runOrder_cons, List.map_cons, ← ih]
    cases (runBody cid cur x b).2.isEmpty <;> rfl

/-- Every callback runs to completion, whether it raises or not … -/
theorem C01_all_finish (cid : CtxId) (cur : Option CtxId) (be : BlockEnd) (st : List Cb) (x : Ctx) :
    endsOf (runTeardown cid cur be st x).2.1 = (runOrder st).map fun cb => (cb.id, cb.raises) := by
  induction st using stack_induction generalizing x with
  | nil => rw [runTeardown_nil, runOrder_nil]; rfl
  | cons id p a b regs r stack ih =>
    rw [runTeardown_cons, runOrder_cons, List.map_cons, ← ih]
    cases (runBody cid cur x b).2.isEmpty <;> rfl

/-- … one at a time. -/
theorem C01_one_at_a_time (cid : CtxId) (cur : Option CtxId) (be : BlockEnd) (st : List Cb) (x : Ctx) :
    bracketed (runTeardown cid cur be st x).2.1 = true := by
  induction st using stack_induction generalizing x with
  | nil => rw [runTeardown_nil]; rfl
  | cons id p a b regs r stack ih =>
    rw [runTeardown_cons]
    exact (bracketed_frame _ _ _ _ _).trans (ih _)

/-- Every exception raised by a callback (of any class) is collected, in order; a raising
callback never prevents the remaining ones from running (C01_all_finish). -/
theorem C01_all_collected (cid : CtxId) (cur : Option CtxId) (be : BlockEnd) (st : List Cb) (x : Ctx) :
    (runTeardown cid cur be st x).2.2 = (runOrder st).filterMap Cb.raises := by
  induction st using stack_induction generalizing x with
  | nil => rw [runTeardown_nil, runOrder_nil]; rfl
  | cons id p a b regs r stack ih =>
    rw [runTeardown_cons, runOrder_cons]
    cases r with
    | none => rw [List.filterMap_cons_none (by rfl), ← ih]
    | some e => rw [List.filterMap_cons_some (by rfl), ← ih]

theorem raises_collected (cid : CtxId) (cur : Option CtxId) (be : BlockEnd) (st : List Cb) (x : Ctx)
    (c : Cb) (e : Exc) (hm : c ∈ st) (hr : c.raises = some e) :
    e ∈ (runTeardown cid cur be st x).2.2 := by
  rw [C01_all_collected]
  exact List.mem_filterMap.2 ⟨c, (runOrder_sublist st).subset hm, hr⟩

/-- Teardown does not change the lifecycle state, the parent, the open children or the
reset token of the context (bodies only add resources / factories). -/
theorem C01_frame (cid : CtxId) (cur : Option CtxId) (be : BlockEnd) (st : List Cb) (x : Ctx) :
    let x' := (runTeardown cid cur be st x).1
    x'.state = x.state ∧ x'.parent = x.parent ∧ x'.children = x.children ∧ x'.token = x.token ∧
      x'.tds = x.tds := by
  have h := runTeardown_ext cid cur be st x
  exact ⟨h.state, h.parent, h.children, h.token, runTeardown_tds cid cur be st x⟩

/-- All registration routes land on the same stack: `add_resource(teardown_callback=)` … -/
theorem C01_route_add (cid : CtxId) (x : Ctx) (a : AddArgs) (cb : Cb) (e : REvent)
    (htd : a.td = some cb) (h : (ctxAdd cid x a).2 = [.ok, .ev cid e]) :
    (ctxAdd cid x a).1.tds = cb :: x.tds := by
  rcases ctxAdd_cases cid x a with ⟨_, eq⟩ | ⟨_, o, ho, eq⟩ | ⟨_, v, _, _, eq⟩ <;> rw [eq] at h ⊢
  · cases h
  · cases h
  · show (match a.td with | some cb => cb :: x.tds | none => x.tds) = cb :: x.tds
    rw [htd]

/-- … and `add_teardown_callback` (also what `context_teardown` and service tasks use). -/
theorem C01_route_direct (w : World) (c : CtxId) (x : Ctx) (cb : Cb)
    (hx : w.ctx? c = some x) (hs : x.state.usable = true) :
    ((step w (.addTeardown c cb true)).1.ctx? c).map Ctx.tds = some (cb :: x.tds) := by
  rw [step_addTeardown w c x cb hx hs, World.ctx?_setCtx_same]
  rfl

/-- If any callback raised, the outcome is one group with exactly the collected exceptions, whatever the
block's own outcome was. -/
theorem C01_outcome_group (w : World) (t : TaskId) (c : CtxId) (be : BlockEnd) (x : Ctx)
    (hx : w.ctx? c = some x) (hs : x.state = .opened)
    (hne : (runTeardown c (w.curOf t) be (effStack be x.tds) { x with state := .closing, tds := [] }).2.2 ≠ []) :
    (step w (.exit t c be)).2 =
      (runTeardown c (w.curOf t) be (effStack be x.tds) { x with state := .closing, tds := [] }).2.1 ++
        [.closed, .exitGroup (runTeardown c (w.curOf t) be (effStack be x.tds) { x with state := .closing, tds := [] }).2.2] := by
  rw [step_exit_exitWith, exitWith_opened w t c be _ x hx hs, exitOutcome_group _ _ _ hne]

/-- If no callback raised and no child context is still open, the caller observes the
block's own outcome: a normal exit … -/
theorem C01_outcome_normal (w : World) (t : TaskId) (c : CtxId) (x : Ctx)
    (hx : w.ctx? c = some x) (hs : x.state = .opened) (hch : x.children = [])
    (hnone : (runTeardown c (w.curOf t) .ret x.tds { x with state := .closing, tds := [] }).2.2 = []) :
    (step w (.exit t c .ret)).2 =
      (runTeardown c (w.curOf t) .ret x.tds { x with state := .closing, tds := [] }).2.1 ++ [.closed, .exitNormal] := by
  rw [step_exit_exitWith, exitWith_opened w t c _ _ x hx hs, effStack_of_not_cancel .ret x.tds rfl, hnone, hch]
  rfl

/-- … or the exception that ended the block, as itself (not wrapped in a group) when it is an
ordinary `Exception`, for root and non-root contexts alike. -/
theorem C01_outcome_own (w : World) (t : TaskId) (c : CtxId) (n : Nat) (x : Ctx)
    (hx : w.ctx? c = some x) (hs : x.state = .opened) (hch : x.children = [])
    (hnone : (runTeardown c (w.curOf t) (.raised (.exn n)) x.tds { x with state := .closing, tds := [] }).2.2 = []) :
    (step w (.exit t c (.raised (.exn n)))).2 =
      (runTeardown c (w.curOf t) (.raised (.exn n)) x.tds { x with state := .closing, tds := [] }).2.1 ++
        [.closed, .exitOwn (.exn n) false] := by
  rw [step_exit_exitWith, exitWith_opened w t c _ _ x hx hs,
    effStack_of_not_cancel (.raised (.exn n)) x.tds rfl, hnone, hch]
  cases x.parent.isNone <;> rfl

/-- … or, after a cancellation, the cancellation itself. -/
theorem C01_outcome_cancelled (w : World) (t : TaskId) (c : CtxId) (x : Ctx)
    (hx : w.ctx? c = some x) (hs : x.state = .opened) (hch : x.children = [])
    (hnone : (runTeardown c (w.curOf t) (.raised .cancelled) (effStack (.raised .cancelled) x.tds)
      { x with state := .closing, tds := [] }).2.2 = []) :
    (step w (.exit t c (.raised .cancelled))).2 =
      (runTeardown c (w.curOf t) (.raised .cancelled) (effStack (.raised .cancelled) x.tds)
          { x with state := .closing, tds := [] }).2.1 ++
        [.closed, .exitOwn .cancelled x.parent.isNone] := by
  rw [step_exit_exitWith, exitWith_opened w t c _ _ x hx hs, hnone, hch]
  cases x.parent.isNone <;> rfl

/-! ### cancellation -/

/-- Unless the block was cancelled, the stack runs as registered. -/
theorem C01_cancel_only (be : BlockEnd) (st : List Cb) (h : be ≠ .raised .cancelled) :
    effStack be st = st :=
  effStack_of_not_cancel be st (isCancel_eq_false be h)

/-- Under cancellation every registered callback is still there, in the same order, with the
same identity and the same pass_exception flag: synchronous ones unchanged (what they register
is subject to the same rule), asynchronous ones reduced to "invoked, cancelled". -/
theorem C01_cancel_shape (st : List Cb) :
    effStack (.raised .cancelled) st = st.map Cb.underCancel ∧
      (∀ id p body regs r, (Cb.mk id p false body regs r).underCancel =
          Cb.mk id p false body (regs.map Cb.underCancel) r) ∧
      (∀ id p body regs r, (Cb.mk id p true body regs r).underCancel =
          Cb.mk id p true [] [] (some .cancelled)) :=
  ⟨effStack_cancelled st, underCancel_sync, underCancel_async⟩

/-- Hence, also under cancellation, every callback registered on the context before the block
was left is invoked (exactly once, by `C01_exactly_once`; in LIFO order with the cancellation
exception as its argument, by `C01_lifo_and_argument`) … -/
theorem C01_cancel_all_invoked (be : BlockEnd) (st : List Cb) :
    ∀ cb ∈ st, ∃ cb' ∈ runOrder (effStack be st), cb'.id = cb.id ∧ cb'.passExc = cb.passExc ∧
      cb'.isAsync = cb.isAsync :=
  invoked_of_keys (effStack_key be st)

/-- … the directly registered ones keep their relative (LIFO) order … -/
theorem C01_cancel_lifo (be : BlockEnd) (st : List Cb) :
    (st.map Cb.id).Sublist ((runOrder (effStack be st)).map Cb.id) :=
  lifo_of_keys (effStack_key be st)

/-- … and the cancellation of every asynchronous one is collected like any other exception. -/
theorem C01_cancel_collected (cid : CtxId) (cur : Option CtxId) (st : List Cb) (x : Ctx) (cb : Cb) (hm : cb ∈ st)
    (ha : cb.isAsync = true) :
    Exc.cancelled ∈ (runTeardown cid cur (.raised .cancelled) (effStack (.raised .cancelled) st) x).2.2 := by
  rw [effStack_cancelled]
  exact raises_collected cid cur _ _ x cb.underCancel .cancelled (List.mem_map_of_mem hm)
    (underCancel_raises_of_async cb ha)

/-- Afterwards the context is closed and its callback stack is empty — even if teardown raised. -/
theorem C01_closed_afterwards (w : World) (t : TaskId) (c : CtxId) (be : BlockEnd) (x : Ctx)
    (hx : w.ctx? c = some x) (hs : x.state = .opened) :
    ∃ x', (step w (.exit t c be)).1.ctx? c = some x' ∧ x'.state = .closed ∧ x'.tds = [] :=
  exitWith_closed w t c be _ x hx hs

section
unseal runOrder
/-- Non-vacuity (probe p5 of DESIGN.md, observed identically on both back-ends): #2 raises an Exception, #3
registers #31 which raises a BaseException, the block ended with an exception. -/
example :
    let c1 := Cb.mk 1 false false [] [] none
    let c2 := Cb.mk 2 true true [] [] (some (.exn 1))
    let c31 := Cb.mk 31 false false [] [] (some (.base 0))
    let c3 := Cb.mk 3 true false [] [c31] none
    let c4 := Cb.mk 4 false true [] [] none
    (runOrder [c4, c3, c2, c1]).map Cb.id = [4, 3, 31, 2, 1] ∧
      (runOrder [c4, c3, c2, c1]).filterMap Cb.raises = [.base 0, .exn 1] := by
  exact ⟨rfl, rfl⟩

/-- The same when the block is cancelled (observed identically on both back-ends): the async #4 and #2 are
invoked and cancelled, the sync #3 still registers #31. -/
example :
    let c1 := Cb.mk 1 false false [] [] none
    let c2 := Cb.mk 2 true true [] [] (some (.exn 1))
    let c31 := Cb.mk 31 false false [] [] (some (.base 0))
    let c3 := Cb.mk 3 true false [] [c31] none
    let c4 := Cb.mk 4 false true [] [] none
    (runOrder (effStack (.raised .cancelled) [c4, c3, c2, c1])).map Cb.id = [4, 3, 31, 2, 1] ∧
      (runOrder (effStack (.raised .cancelled) [c4, c3, c2, c1])).filterMap Cb.raises =
        [.cancelled, .base 0, .cancelled] := by
  exact ⟨rfl, rfl⟩
end

end Asphalt
