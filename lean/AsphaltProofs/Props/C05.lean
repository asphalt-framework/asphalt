/-
C05 — component trees start in order: construct all, prepare, children, then start.
`Exec (SSt.init …)` ranges over all label sequences the start-up LTS (AsphaltModel/Startup.lean)
accepts, i.e. over every interleaving the event loop may choose. `s.hist` is the ghost list of the
labels so far, so "label ∈ s.hist" beside `step? s l = some s'` means "happened strictly before l".
-/
import AsphaltProofs.Lemmas.Startup

namespace Asphalt
open St

def SReach (prog : List CompSpec) (to : Bool) (s : SSt) : Prop :=
  ∃ ls, Exec (SSt.init prog to) ls s

theorem SReach.inv {prog : List CompSpec} {to : Bool} {s : SSt} (h : SReach prog to s) :
    Inv prog to s := by
  obtain ⟨ls, h⟩ := h
  exact inv_of_exec h

/-- The ghost history is the run. -/
theorem C05_hist (prog : List CompSpec) (to : Bool) (ls : List Lab) (s : SSt)
    (h : Exec (SSt.init prog to) ls s) : s.hist = ls ∧ s.prog = prog := by
  exact ⟨exec_init_hist h, (inv_of_exec h).prog_eq⟩

/-- Constructors run one after the other in pre-order (= index order), and no prepare()/start() begins
before the whole hierarchy has been instantiated. -/
theorem C05_construct_first (s s' : SSt) (i : Nat) :
    (step? s (.construct i) = some s' → i = s.constructed ∧ s'.constructed = i + 1) ∧
    (step? s (.prepBegin i) = some s' → s.allConstructed = true) ∧
    (step? s (.startBegin i) = some s' → s.allConstructed = true) := by
  refine ⟨fun h => ?_, fun h => ?_, fun h => ?_⟩
  · cases Step.of_step? h with
    | construct _ _ _ hi => exact ⟨hi, by rw [hi]⟩
  · cases Step.of_step? h with
    | prepBegin _ _ _ _ _ hall => exact hall
  · cases Step.of_step? h with
    | startBegin _ _ _ _ _ hall => exact hall

theorem C05_construct_order (prog : List CompSpec) (to : Bool) (s : SSt) (h : SReach prog to s) :
    (s.hist.filterMap fun l => match l with | .construct i => some i | _ => none) =
      List.range s.constructed ∧ s.constructed ≤ prog.length := by
  have hi := h.inv
  -- the `match` of the statement is `constructIdx`, by unfolding
  exact ⟨hi.ctor, hi.ctor_le⟩

/-- prepare() of a component completes before any of its children begin (prepare or start). -/
theorem C05_prepare_first (prog : List CompSpec) (to : Bool) (s s' : SSt) (h : SReach prog to s)
    (i p : Nat) (c pc : CompSpec) (hc : prog[i]? = some c) (hp : c.parent = some p)
    (hpc : prog[p]? = some pc) (hprep : pc.prepare ≠ none)
    (hstep : step? s (.prepBegin i) = some s' ∨ step? s (.startBegin i) = some s') :
    Lab.prepEnd p ∈ s.hist := by
  have hi := h.inv
  have hreach : s.reached s.fuel i = true := by
    rcases hstep with hs | hs
    · cases Step.of_step? hs with
      | prepBegin _ _ _ _ _ _ _ hr => exact hr
    · cases Step.of_step? hs with
      | startBegin _ _ _ _ _ _ _ _ hr => exact hr
  unfold SSt.fuel at hreach
  obtain ⟨c', hc', hpar⟩ := reached_succ.mp hreach
  rw [hi.prog_eq, hc] at hc'
  cases hc'
  rcases hpar with hnone | ⟨p', hp', hpf, _⟩
  · rw [hp] at hnone; cases hnone
  · rw [hp] at hp'
    cases hp'
    exact ((hi.prepFinished_iff hpc).mp hpf).resolve_left hprep

/-- A component's own prepare() has returned before its start() is called. -/
theorem C05_own_prepare_first (prog : List CompSpec) (to : Bool) (s s' : SSt) (h : SReach prog to s)
    (i : Nat) (c : CompSpec) (hc : prog[i]? = some c) (hprep : c.prepare ≠ none)
    (hstep : step? s (.startBegin i) = some s') : Lab.prepEnd i ∈ s.hist := by
  have hi := h.inv
  have hpf : s.prepFinished i = true := by
    cases Step.of_step? hstep with
    | startBegin _ _ _ _ _ _ _ hpf => exact hpf
  exact ((hi.prepFinished_iff hc).mp hpf).resolve_left hprep

/-- start() of a component is called only after start() (and prepare()) of every descendant has
returned. -/
theorem C05_start_last (prog : List CompSpec) (to : Bool) (s s' : SSt) (h : SReach prog to s)
    (hwf : wfProg prog = true) (i d : Nat) (dc : CompSpec) (hd : Desc prog d i) (hdc : prog[d]? = some dc)
    (hstep : step? s (.startBegin i) = some s') :
    (dc.start ≠ none → Lab.startEnd d ∈ s.hist) ∧ (dc.prepare ≠ none → Lab.prepEnd d ∈ s.hist) := by
  have _ := hwf  -- not needed: `Desc` already follows the children lists
  have hi := h.inv
  obtain ⟨hpf, hsf⟩ := startBegin_desc hstep (hi.prog_eq ▸ hd)
  exact ⟨((hi.startFinished_iff hdc).mp hsf).resolve_left, ((hi.prepFinished_iff hdc).mp hpf).resolve_left⟩

/-- Each of the four method events of a component happens at most once in any run. -/
theorem C05_at_most_once (prog : List CompSpec) (to : Bool) (s : SSt) (h : SReach prog to s) (i : Nat) :
    s.hist.count (.prepBegin i) ≤ 1 ∧ s.hist.count (.prepEnd i) ≤ 1 ∧
      s.hist.count (.startBegin i) ≤ 1 ∧ s.hist.count (.startEnd i) ≤ 1 := by
  have hi := h.inv
  exact ⟨(hi.prep i).begin_le, (hi.prep i).end_le, (hi.start i).begin_le, (hi.start i).end_le⟩

/-- Begin before end. -/
theorem C05_bracketed (prog : List CompSpec) (to : Bool) (s s' : SSt) (h : SReach prog to s) (i : Nat) :
    (step? s (.prepEnd i) = some s' → Lab.prepBegin i ∈ s.hist) ∧
    (step? s (.startEnd i) = some s' → Lab.startBegin i ∈ s.hist) := by
  have hi := h.inv
  constructor
  · intro hs
    cases Step.of_step? hs with
    | prepEnd _ hn _ hrun =>
      refine (hi.prep i).begin_mem_iff.mpr ?_
      rw [prepL_of_getElem? hn, hrun]
      simp
  · intro hs
    cases Step.of_step? hs with
    | startEnd _ hn _ hrun =>
      refine (hi.start i).begin_mem_iff.mpr ?_
      rw [startL_of_getElem? hn, hrun]
      simp

/-- start_component returns only after the whole tree has finished: in particular after the
root's start() has returned, and every overridden prepare()/start() has run exactly once. -/
theorem C05_return_last (prog : List CompSpec) (to : Bool) (s s' : SSt) (h : SReach prog to s)
    (hwf : wfProg prog = true) (hstep : step? s .returned = some s') (i : Nat) (c : CompSpec)
    (hc : prog[i]? = some c) :
    (c.prepare ≠ none → s.hist.count (.prepBegin i) = 1 ∧ s.hist.count (.prepEnd i) = 1) ∧
    (c.start ≠ none → s.hist.count (.startBegin i) = 1 ∧ s.hist.count (.startEnd i) = 1) := by
  have hi := h.inv
  have hroot : s.subtreeDone s.fuel 0 = true := by
    cases Step.of_step? hstep with
    | returned _ _ _ hroot => exact hroot
  have hlt : i < prog.length := (List.getElem?_eq_some_iff.mp hc).1
  have hsd : ∃ f', s.subtreeDone f' i = true := by
    rcases wf_desc_root hwf hlt with rfl | hd
    · exact ⟨_, hroot⟩
    · obtain ⟨c0, hc0, _, hall, _⟩ := subtreeDone_succ.mp hroot
      exact subtreeDone_desc hi.prog_eq hd _ c0 (hi.prog_eq ▸ hc0) hall
  obtain ⟨f', hsd⟩ := hsd
  obtain ⟨hpf, hsf⟩ := subtreeDone_fin hsd
  exact ⟨fun hne => (hi.prep i).count_of_done
      ((hi.prep i).end_mem_iff.mp (((hi.prepFinished_iff hc).mp hpf).resolve_left hne)),
    fun hne => (hi.start i).count_of_done
      ((hi.start i).end_mem_iff.mp (((hi.startFinished_iff hc).mp hsf).resolve_left hne))⟩

/-- After start_component has returned (or raised) only the teardown callbacks of the surrounding context
are left. -/
theorem C05_nothing_after_return (s s' : SSt) (l : Lab) (hrep : s.reported = true)
    (hstep : step? s l = some s') : (∃ id, l = .tdRun id) ∨ l = .instantOver := by
  exact (step?_of_reported hstep hrep).1

/-- Ownership: what components publish lands in the surrounding context, under the name the
alias rule gives (C14), and stays there … -/
theorem C05_publish_lands (s s' : SSt) (i : Nat) (ty : TypeId) (name : String) (v : Nat)
    (hstep : step? s (.pub i ty name v) = some s') :
    ∃ c ph, s.spec? i = some c ∧ (∃ rest b, s.current i = some (ph, rest, b)) ∧
      alookup ⟨ty, publishName (phaseOf ph) c.dflt name⟩ s'.res = some (.static v) := by
  cases Step.of_step? hstep with
  | @pub _ _ _ _ c ph _ _ hc hcur _ hfree =>
    refine ⟨c, ph, hc, ⟨_, _, hcur⟩, ?_⟩
    have hnone : alookup (⟨ty, publishName (phaseOf ph) c.dflt name⟩ : Key) s.res = none := by
      simpa [acontains] using hfree
    simp [alookup_append, hnone, alookup_cons]

theorem C05_resources_stay (s s' : SSt) (l : Lab) (k : Key) (v : Val)
    (hk : alookup k s.res = some v) (hstep : step? s l = some s') : alookup k s'.res = some v := by
  exact step?_res_stable hstep hk

/-- … and teardown callbacks registered by components are on the surrounding context's stack
in registration order, and run last-registered-first when that context is left. -/
theorem C05_teardown_owned (prog : List CompSpec) (to : Bool) (s : SSt) (h : SReach prog to s)
    (hrep : s.reported = false) :
    s.tds = (s.hist.filterMap fun l => match l with | .regTd _ id => some id | _ => none).reverse := by
  -- the `match` of the statement is `regTdId`, by unfolding
  exact h.inv.tds hrep

theorem C05_teardown_lifo (s s' : SSt) (id : Nat) (hstep : step? s (.tdRun id) = some s') :
    s.reported = true ∧ s.tds = id :: s'.tds := by
  cases Step.of_step? hstep with
  | tdRun hr ht => exact ⟨hr, ht⟩

/-- Non-vacuity: the shape of docs/userguide/snippets/components1.py plus a grandchild that waits
for an uncle's resource: this run is accepted and returns. -/
example :
    let prog : List CompSpec := [
      ⟨"", none, 0, false, "default", none, some [], [1, 3]⟩,
      ⟨"a", some 0, 1, false, "default", some [.tick 1], some [], [2]⟩,
      ⟨"a.g", some 1, 2, false, "default", none, some [.await 0 "r"], []⟩,
      ⟨"b", some 0, 3, false, "default", none, some [.tick 2, .publish 0 "r" 7], []⟩]
    let tr : List Lab := [.construct 0, .construct 1, .construct 2, .construct 3,
      .prepBegin 1, .startBegin 3, .tick 1, .prepEnd 1, .startBegin 2, .req 2 ⟨0, "r"⟩,
      .tick 3, .pub 3 0 "r" 7, .startEnd 3, .got 2 ⟨0, "r"⟩ (.static 7), .startEnd 2,
      .startBegin 1, .startEnd 1, .startBegin 0, .startEnd 0, .returned]
    (match accept (SSt.init prog true) tr 0 with
     | .ok s => s.result == some .returned
     | .error _ => false) = true := by
  decide +kernel

end Asphalt
