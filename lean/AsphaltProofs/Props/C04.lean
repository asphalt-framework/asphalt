/-
C04 — factory-generated resources are per-context singletons of the requesting context.
-/
import AsphaltProofs.Lemmas.Generation

namespace Asphalt
open K2

/-- An entry sits under its own name and one of its own types, a factory is registered under all of its
types, and factory ids identify factories. -/
def FacWF (fac : List (Key × Factory)) : Prop :=
  (∀ k f, alookup k fac = some f → f.name = k.name ∧ k.ty ∈ f.types ∧
      ∀ t ∈ f.types, alookup ⟨t, f.name⟩ fac = some f) ∧
  (∀ k k' f f', alookup k fac = some f → alookup k' fac = some f' → f.fid = f'.fid → f = f')

/-- Once a factory has generated in a context, every one of its pairs is taken there (by the
generated object or by a resource that was there before), so it is never asked again. -/
def GenDone (x : Ctx) : Prop :=
  ∀ k f, alookup k x.fac = some f → 1 ≤ countOf f.fid x.genCount → (alookup k x.res).isSome = true

theorem C04_facwf (w : World) (hr : Reachable w) (c : CtxId) (x : Ctx) (hx : w.ctx? c = some x) :
    FacWF x.fac := by
  exact (reachable_kinv hr c x hx).facwf

/-- The factory is called successfully at most once per (context, factory): in every context
of every reachable world, every factory has completed at most one generation. -/
theorem C04_once (w : World) (hr : Reachable w) (c : CtxId) (x : Ctx) (hx : w.ctx? c = some x)
    (fid : Nat) : countOf fid x.genCount ≤ 1 := by
  exact (reachable_kinv hr c x hx).once fid

/-- Asking the synchronous API for a resource whose factory is asynchronous raises
AsyncResourceError and registers nothing. -/
theorem C04_async_via_sync (cid : CtxId) (x : Ctx) (k : Key) (f : Factory) (opt : Bool)
    (hs : x.state.usable = true) (hmiss : alookup k x.res = none) (hf : alookup k x.fac = some f)
    (ha : f.isAsync = true) :
    ctxGetNowait cid x k opt = (x, [.asyncError]) := by
  unfold ctxGetNowait
  simp [hs, hmiss, hf, ha]

/-- A successful generation through the sync API stores the object, flagged as generated,
under every one of the factory's types that was not already taken, and returns it. -/
theorem C04_generates_all_types (cid : CtxId) (x : Ctx) (k : Key) (f : Factory) (opt : Bool)
    (hs : x.state.usable = true) (hmiss : alookup k x.res = none) (hf : alookup k x.fac = some f)
    (hsync : f.isAsync = false) (hok : f.failFirst ≤ countOf f.fid x.callCount) :
    let v := Val.gen cid f.fid (countOf f.fid x.callCount)
    let free := f.types.filter fun t => !acontains ⟨t, f.name⟩ x.res
    (ctxGetNowait cid x k opt).2.head? = some (.val v) ∧
    ∀ t ∈ free, alookup ⟨t, f.name⟩ (ctxGetNowait cid x k opt).1.res =
      some ⟨v, free, f.name, f.desc, true⟩ := by
  intro v free
  have hc : ¬ countOf f.fid x.callCount < f.failFirst := by omega
  rw [ctxGetNowait_gen cid x k opt f hs hmiss hf hsync, if_neg hc]
  exact ⟨rfl, storeGenerated_stores cid (bumpCall x f) f v⟩

/-- Whichever API triggered it: the async API stores the same way (ungated factories complete
within the step). -/
theorem C04_generates_all_types_async (cid : CtxId) (x : Ctx) (t : TaskId) (k : Key) (f : Factory)
    (opt : Bool) (hs : x.state.usable = true) (hmiss : alookup k x.res = none)
    (hf : alookup k x.fac = some f) (hnp : x.pending.find? (fun p => p.fid = f.fid) = none)
    (hung : (f.isAsync && f.gated) = false) (hok : f.failFirst ≤ countOf f.fid x.callCount) :
    let v := Val.gen cid f.fid (countOf f.fid x.callCount)
    let free := f.types.filter fun t => !acontains ⟨t, f.name⟩ x.res
    ∀ ty ∈ free, alookup ⟨ty, f.name⟩ (ctxGet cid x t k opt).1.res =
      some ⟨v, free, f.name, f.desc, true⟩ := by
  intro v free
  have hc : ¬ countOf f.fid x.callCount < f.failFirst := by omega
  rw [ctxGet_gen cid x t k opt f hs hmiss hf hnp hung, if_neg hc]
  exact storeGenerated_stores cid (bumpCall x f) f v

/-- The generated object is not inherited: a context created afterwards holds no generated
resource at all … -/
theorem C04_not_inherited (px : Ctx) (p : Option CtxId) (k : Key) (cont : Container)
    (h : alookup k (freshCtx p (some px)).res = some cont) : cont.generated = false := by
  have hm := alookup_mem _ _ _ h
  simp only [freshCtx, List.mem_filter] at hm
  simpa using hm.2

/-- … but it does inherit the factory, so its own first lookup generates its own object. -/
theorem C04_child_has_factory (px : Ctx) (p : Option CtxId) :
    (freshCtx p (some px)).fac = px.fac ∧ (freshCtx p (some px)).genCount = [] ∧
      (freshCtx p (some px)).callCount = [] := by
  exact ⟨rfl, rfl, rfl⟩

/-- Objects generated in different contexts are different objects. -/
theorem C04_distinct_objects (c c' fid fid' n n' : Nat) (h : c ≠ c') :
    Val.gen c fid n ≠ Val.gen c' fid' n' := by
  intro e
  injection e with e1
  exact h e1

/-- Racing lookups: while a generation of a factory is in flight in a context, a further lookup
through that factory neither calls it again nor stores anything — it waits. -/
theorem C04_race_waits (cid : CtxId) (x : Ctx) (t : TaskId) (k : Key) (f : Factory) (opt : Bool)
    (p : Pending) (hs : x.state.usable = true) (hmiss : alookup k x.res = none)
    (hf : alookup k x.fac = some f) (hp : x.pending.find? (fun q => q.fid = f.fid) = some p) :
    (ctxGet cid x t k opt).2 = [.blocked] ∧ (ctxGet cid x t k opt).1.res = x.res ∧
      (ctxGet cid x t k opt).1.callCount = x.callCount ∧
      (ctxGet cid x t k opt).1.genCount = x.genCount := by
  unfold ctxGet
  simp [hs, hmiss, hf, hp]

/-- Generation happens in the requesting context only (C02_frame spelled out for lookups). -/
theorem C04_scoped (w : World) (c d : CtxId) (k : Key) (opt : Bool) (hne : c ≠ d) :
    (step w (.getNowait c k opt)).1.ctx? d = w.ctx? d := by
  exact onCtx_ctx?_other w c d _ hne

/-- Non-vacuity (findings D1/D2): an async gated factory, two racing lookups, then a child. -/
example :
    let fac : FacArgs := ⟨[0, 1], "default", 3, none, true, true, 0, false⟩
    let ops : List Op := [.new 0 1 none, .enter 0 1, .addFactory 1 fac,
                          .get 0 1 ⟨0, "default"⟩ false, .get 1 1 ⟨1, "default"⟩ false,
                          .genFinish 1 3 none, .new 0 2 none]
    let w := (run World.empty ops).1
    ((w.ctx? 1).map (fun x => (countOf 3 x.genCount, countOf 3 x.callCount, x.res.length)),
     (w.ctx? 2).map (fun x => x.res.length)) = (some (1, 1, 2), some 0) := by
  decide +kernel

end Asphalt
