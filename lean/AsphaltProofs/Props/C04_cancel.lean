/-
C04 / C06 (continued) — a suspended lookup is given up by its caller (`Op.cancelGet`,
`ctxCancelGet` in AsphaltModel/Context.lean): if it is the lookup that was running the factory the
generation is abandoned and the lookups that waited for it look again; if it only waited, it leaves
the queue: no lookup is left waiting for a generation that no longer exists,
nothing is stored, nothing else changes.

The helper lemmas (namespace `CG`) rest on what one lookup does to the table of generations in flight
(`ctxGet_pending`), carried across the resumption of the waiters; the event log is read off the outputs with the
answers of the lookups that looked again spliced in (`unnest`).
-/
import AsphaltProofs.Props.C18

namespace Asphalt

namespace CG

theorem mem_wakeOrder (next : Option TaskId) (ws : List (TaskId × Key × Bool)) (w : TaskId × Key × Bool) :
    w ∈ wakeOrder next ws ↔ w ∈ ws := by
  cases next with
  | none => rfl
  | some t =>
    simp only [wakeOrder, List.mem_append, List.mem_filter, decide_eq_true_eq]
    by_cases h : w.1 = t <;> simp [h]

theorem registeredVal_ne_blocked (x : Ctx) (k : Key) : registeredVal x k ≠ .blocked := by
  unfold registeredVal; split <;> simp

/-- The lookup `w` leaves `pending` alone and answers, or it answers `[.blocked]` and has joined the waiters of a
generation in flight, or has become the runner of a new one. -/
def PendingStep (x : Ctx) (w : TaskId × Key × Bool) (r : Ctx × List Out) : Prop :=
  (r.1.pending = x.pending ∧ r.2 ≠ [.blocked]) ∨
  (∃ fid p, x.pending.find? (fun p => p.fid = fid) = some p ∧
    r.1.pending = (addWaiter x fid w).pending ∧ r.2 = [.blocked]) ∨
  (∃ fid, r.1.pending = x.pending ++ [⟨fid, w.1, w.2.1, w.2.2, []⟩] ∧ r.2 = [.blocked])

theorem ctxGet_pending (cid : CtxId) (x : Ctx) (t : TaskId) (k : Key) (opt : Bool) :
    PendingStep x (t, k, opt) (ctxGet cid x t k opt) := by
  apply ctxGet_cases (PendingStep x (t, k, opt))
  · intro _; exact .inl ⟨rfl, by simp⟩
  · intro _ _ _; exact .inl ⟨rfl, by simp⟩
  · intro f p _ _ _ hp; exact .inr (.inl ⟨f.fid, p, hp, rfl, rfl⟩)
  · intro f _ _ _ _ _; exact .inr (.inr ⟨f.fid, rfl, rfl⟩)
  · intro f _ _ _ _ _ _; exact .inl ⟨rfl, by simp⟩
  · intro f _ _ _ _ _ _
    refine .inl ⟨(storeGenerated_fields cid (bumpCall x f) f _).2.1, ?_⟩
    intro h
    have := (List.cons.inj h).1
    exact registeredVal_ne_blocked _ _ this
  · intro _ _ _; exact .inl ⟨rfl, by cases opt <;> simp⟩

/-- Task `t` is the runner of, or a waiter for, a generation in flight. -/
def Waits (x : Ctx) (t : TaskId) : Prop :=
  ∃ q ∈ x.pending, q.task = t ∨ ∃ w' ∈ q.waiters, w'.1 = t

theorem ctxGet_waits_mono (cid : CtxId) (x : Ctx) (t : TaskId) (k : Key) (opt : Bool) (s : TaskId)
    (h : Waits x s) : Waits (ctxGet cid x t k opt).1 s := by
  obtain ⟨q, hq, hs⟩ := h
  rcases ctxGet_pending cid x t k opt with ⟨e, _⟩ | ⟨fid, p, _, e, _⟩ | ⟨fid, e, _⟩
  · exact ⟨q, by rw [e]; exact hq, hs⟩
  · refine ⟨_, by rw [e]; exact List.mem_map.mpr ⟨q, hq, rfl⟩, ?_⟩
    split
    · rcases hs with hs | ⟨w', hw', hs⟩
      · exact .inl hs
      · exact .inr ⟨w', List.mem_append_left _ hw', hs⟩
    · exact hs
  · exact ⟨q, by rw [e]; exact List.mem_append_left _ hq, hs⟩

theorem ctxGet_blocked_waits (cid : CtxId) (x : Ctx) (t : TaskId) (k : Key) (opt : Bool)
    (h : (ctxGet cid x t k opt).2 = [.blocked]) : Waits (ctxGet cid x t k opt).1 t := by
  rcases ctxGet_pending cid x t k opt with ⟨_, hne⟩ | ⟨fid, p, hp, e, _⟩ | ⟨fid, e, _⟩
  · exact absurd h hne
  · have hpm : p ∈ x.pending := List.mem_of_find?_eq_some hp
    have hpf : p.fid = fid := by simpa using List.find?_some hp
    refine ⟨_, by rw [e]; exact List.mem_map.mpr ⟨p, hpm, rfl⟩, ?_⟩
    rw [if_pos hpf]
    exact .inr ⟨(t, k, opt), by simp, rfl⟩
  · exact ⟨⟨fid, t, k, opt, []⟩, by rw [e]; simp, .inl rfl⟩

theorem resumeWaiters_waits_mono (cid : CtxId) (ws : List (TaskId × Key × Bool)) (s : TaskId) :
    ∀ x, Waits x s → Waits (resumeWaiters cid x ws).1 s :=
  resumeWaiters_keeps cid ws fun w _ x => ctxGet_waits_mono cid x w.1 w.2.1 w.2.2 s

theorem resumeWaiters_accounted (cid : CtxId) (ws : List (TaskId × Key × Bool)) :
    ∀ x, ∀ w ∈ ws, (∃ o, Out.task w.1 o ∈ (resumeWaiters cid x ws).2) ∨
      Waits (resumeWaiters cid x ws).1 w.1 := by
  induction ws with
  | nil => intro x w hw; cases hw
  | cons w0 ws ih =>
    intro x w hw
    obtain ⟨t, k, opt⟩ := w0
    by_cases hb : (ctxGet cid x t k opt).2 = [.blocked]
    · rw [resumeWaiters_cons_fst, resumeWaiters_cons_snd_blocked _ _ _ _ _ _ hb]
      rcases List.mem_cons.mp hw with rfl | hw
      · exact .inr (resumeWaiters_waits_mono cid ws t _ (ctxGet_blocked_waits cid x t k opt hb))
      · exact ih _ w hw
    · rw [resumeWaiters_cons_fst, resumeWaiters_cons_snd_other _ _ _ _ _ _ hb]
      rcases List.mem_cons.mp hw with rfl | hw
      · exact .inl ⟨_, List.mem_cons_self⟩
      · rcases ih (ctxGet cid x t k opt).1 w hw with ⟨o, ho⟩ | h
        · exact .inl ⟨o, List.mem_cons_of_mem _ ho⟩
        · exact .inr h

def Clean (x : Ctx) (lid : TaskId) : Prop :=
  ∀ q ∈ x.pending, q.task ≠ lid ∧ ∀ w ∈ q.waiters, w.1 ≠ lid

theorem ctxGet_clean (cid : CtxId) (x : Ctx) (t : TaskId) (k : Key) (opt : Bool) (lid : TaskId)
    (ht : t ≠ lid) (h : Clean x lid) : Clean (ctxGet cid x t k opt).1 lid := by
  intro q' hq'
  rcases ctxGet_pending cid x t k opt with ⟨e, _⟩ | ⟨fid, p, _, e, _⟩ | ⟨fid, e, _⟩
  · rw [e] at hq'; exact h q' hq'
  · rw [e] at hq'
    obtain ⟨q, hq, rfl⟩ := List.mem_map.mp hq'
    split
    · refine ⟨(h q hq).1, ?_⟩
      intro w hw
      rcases List.mem_append.mp hw with hw | hw
      · exact (h q hq).2 w hw
      · rw [List.mem_singleton.mp hw]; exact ht
    · exact h q hq
  · rw [e] at hq'
    rcases List.mem_append.mp hq' with hq' | hq'
    · exact h q' hq'
    · rw [List.mem_singleton.mp hq']
      exact ⟨ht, fun w hw => by cases hw⟩

theorem resumeWaiters_clean (cid : CtxId) (ws : List (TaskId × Key × Bool)) (lid : TaskId)
    (hws : ∀ w ∈ ws, w.1 ≠ lid) : ∀ x, Clean x lid → Clean (resumeWaiters cid x ws).1 lid :=
  resumeWaiters_keeps cid ws fun w hw x => ctxGet_clean cid x w.1 w.2.1 w.2.2 lid (hws w hw)

theorem fac_closed (cid : CtxId) : Closed cid (fun x y => y.fac = x.fac) :=
  ⟨fun _ => rfl, fun h1 h2 => h2.trans h1, fun _ _ => rfl, fun x f v => (storeGenerated_fields cid x f v).1,
   fun _ _ => rfl⟩

/-- The outputs with the answers of the lookups that returned within the step (`.task t o`) spliced in:
what the listeners and callers see, in order, without the task labels. (`evsOf` reads the top level only.) -/
def unnest : List Out → List Out
  | [] => []
  | .task _ o :: rest => o ++ unnest rest
  | o :: rest => o :: unnest rest

theorem unnest_cons_task (t : TaskId) (o rest : List Out) :
    unnest (.task t o :: rest) = o ++ unnest rest := rfl

theorem unnest_cons_other (o : Out) (rest : List Out) (h : ∀ t os, o ≠ .task t os) :
    unnest (o :: rest) = o :: unnest rest := by
  cases o <;> first | rfl | exact absurd rfl (h _ _)

/-- At the top level `resumeWaiters` emits `.task` outputs only: no event. -/
theorem evsOf_resumeWaiters (c cid : CtxId) (ws : List (TaskId × Key × Bool)) :
    ∀ x, evsOf c (resumeWaiters cid x ws).2 = [] := by
  induction ws with
  | nil => exact fun _ => rfl
  | cons w ws ih =>
    intro x
    obtain ⟨t, k, opt⟩ := w
    by_cases hb : (ctxGet cid x t k opt).2 = [.blocked]
    · rw [resumeWaiters_cons_snd_blocked _ _ _ _ _ _ hb]; exact ih _
    · rw [resumeWaiters_cons_snd_other _ _ _ _ _ _ hb]; exact ih _

theorem resumeWaiters_log (cid : CtxId) (ws : List (TaskId × Key × Bool)) :
    ∀ x, (resumeWaiters cid x ws).1.events =
      x.events ++ evsOf cid (unnest (resumeWaiters cid x ws).2) := by
  induction ws with
  | nil => intro x; simp [resumeWaiters, unnest, evsOf]
  | cons w ws ih =>
    intro x
    obtain ⟨t, k, opt⟩ := w
    have hl := C18_log_sound_get cid x t k opt
    by_cases hb : (ctxGet cid x t k opt).2 = [.blocked]
    · rw [resumeWaiters_cons_fst, resumeWaiters_cons_snd_blocked _ _ _ _ _ _ hb, ih, hl, hb]
      simp [evsOf]
    · rw [resumeWaiters_cons_fst, resumeWaiters_cons_snd_other _ _ _ _ _ _ hb, ih, hl,
        unnest_cons_task, evsOf_append, List.append_assoc]

theorem ctxGet_events_gated (cid : CtxId) (x : Ctx) (t : TaskId) (k : Key) (opt : Bool)
    (hg : ∀ f, alookup k x.fac = some f → (f.isAsync && f.gated) = true) :
    (ctxGet cid x t k opt).1.events = x.events := by
  apply ctxGet_cases (fun r => r.1.events = x.events)
  · intro _; rfl
  · intro _ _ _; rfl
  · intro _ _ _ _ _ _; rfl
  · intro _ _ _ _ _ _; rfl
  · intro f _ _ hf _ hu _; rw [hg f hf] at hu; cases hu
  · intro f _ _ hf _ hu _; rw [hg f hf] at hu; cases hu
  · intro _ _ _; rfl

theorem resumeWaiters_events_gated (cid : CtxId) (ws : List (TaskId × Key × Bool)) (x : Ctx)
    (hg : ∀ w ∈ ws, ∀ f, alookup w.2.1 x.fac = some f → (f.isAsync && f.gated) = true) :
    (resumeWaiters cid x ws).1.events = x.events :=
  (resumeWaiters_keeps (P := fun y => y.fac = x.fac ∧ y.events = x.events) cid ws
    (fun w hw y ⟨hf, he⟩ => ⟨((fac_closed cid).ctxGet y _ _ _).trans hf,
      (ctxGet_events_gated cid y _ _ _ fun f hy => hg w hw f (hf ▸ hy)).trans he⟩) x ⟨rfl, rfl⟩).2

theorem ctxCancelGet_evsOf (cid : CtxId) (x : Ctx) (lid : TaskId) (next : Option TaskId) :
    evsOf cid (ctxCancelGet cid x lid next).2 = [] := by
  fun_cases ctxCancelGet cid x lid next with
  | case1 p _ _ _ x' os hw =>
    cases congrArg Prod.snd hw
    exact evsOf_resumeWaiters cid cid _ _
  | case2 | case3 => rfl

end CG

open K2

/-- Every lookup that was waiting for the abandoned generation is accounted for afterwards: it has
returned (a `task` output carries its answer), or it is again the runner of / a waiter for a
generation that is in flight. No wake-up is lost. -/
theorem C04_cancel_no_lost_waiter (cid : CtxId) (x : Ctx) (lid : TaskId) (next : Option TaskId) (p : Pending)
    (hp : x.pending.find? (fun q => q.task = lid) = some p) (w : TaskId × Key × Bool) (hw : w ∈ p.waiters) :
    (∃ o, Out.task w.1 o ∈ (ctxCancelGet cid x lid next).2) ∨
      (∃ q ∈ (ctxCancelGet cid x lid next).1.pending, q.task = w.1 ∨ ∃ w' ∈ q.waiters, w'.1 = w.1) := by
  rw [ctxCancelGet_runner cid x lid next p hp]
  rcases CG.resumeWaiters_accounted cid (wakeOrder next p.waiters) (dropGen x p.fid) w
      ((CG.mem_wakeOrder next p.waiters w).mpr hw) with ⟨o, ho⟩ | h
  · exact .inl ⟨o, List.mem_cons_of_mem _ ho⟩
  · exact .inr h

/-- The abandoned generation is gone: the cancelled lookup is neither the runner of nor a waiter for
any generation afterwards, provided lookup labels are unique. -/
theorem C04_cancel_removes (cid : CtxId) (x : Ctx) (lid : TaskId) (next : Option TaskId) (p : Pending)
    (hp : x.pending.find? (fun q => q.task = lid) = some p)
    (huniq : ∀ q ∈ x.pending, (q.task = lid → q.fid = p.fid) ∧ ∀ w ∈ q.waiters, w.1 ≠ lid) :
    ∀ q ∈ (ctxCancelGet cid x lid next).1.pending, q.task ≠ lid ∧ ∀ w ∈ q.waiters, w.1 ≠ lid := by
  rw [ctxCancelGet_runner cid x lid next p hp]
  have hpm : p ∈ x.pending := List.mem_of_find?_eq_some hp
  refine CG.resumeWaiters_clean cid (wakeOrder next p.waiters) lid ?_ (dropGen x p.fid) ?_
  · intro w hw
    exact (huniq p hpm).2 w ((CG.mem_wakeOrder next p.waiters w).mp hw)
  · intro q hq
    have hq' := List.mem_filter.mp hq
    have hne : q.fid ≠ p.fid := by simpa using hq'.2
    exact ⟨fun e => hne ((huniq q hq'.1).1 e), (huniq q hq'.1).2⟩

/-- The cancelled call ends with the cancellation, whatever its role was. -/
theorem C04_cancel_answer (cid : CtxId) (x : Ctx) (lid : TaskId) (next : Option TaskId)
    (h : (ctxCancelGet cid x lid next).2 ≠ [.badOp]) :
    Out.task lid [.raisedExc .cancelled] ∈ (ctxCancelGet cid x lid next).2 := by
  revert h
  fun_cases ctxCancelGet cid x lid next with
  | case1 | case2 => exact fun _ => List.mem_cons_self
  | case3 => exact fun h => absurd rfl h

/-- Giving up a lookup that only waited changes nothing but the queue it waited in: no other lookup
is affected, nothing is stored, no factory is called. -/
theorem C04_cancel_waiter_only (cid : CtxId) (x : Ctx) (lid : TaskId) (next : Option TaskId)
    (hnp : x.pending.find? (fun q => q.task = lid) = none) :
    (ctxCancelGet cid x lid next).1.res = x.res ∧ (ctxCancelGet cid x lid next).1.fac = x.fac ∧
      (ctxCancelGet cid x lid next).1.callCount = x.callCount ∧
      (ctxCancelGet cid x lid next).1.genCount = x.genCount ∧
      (ctxCancelGet cid x lid next).1.pending.map (·.fid) = x.pending.map (·.fid) ∧
      (ctxCancelGet cid x lid next).1.pending.map (·.task) = x.pending.map (·.task) := by
  rw [ctxCancelGet_waiter cid x lid next hnp]
  split
  · exact ⟨rfl, rfl, rfl, rfl, List.map_map.trans rfl, List.map_map.trans rfl⟩
  · exact ⟨rfl, rfl, rfl, rfl, rfl, rfl⟩

/-- Whatever is registered stays registered under the same container (C03_stable for this operation):
an abandoned generation stores nothing of its own, and the lookups that look again never replace. -/
theorem C04_cancel_keeps_existing (cid : CtxId) (x : Ctx) (lid : TaskId) (next : Option TaskId) (k : Key)
    (cont : Container) (hk : alookup k x.res = some cont) :
    alookup k (ctxCancelGet cid x lid next).1.res = some cont := by
  exact ((ext_closed cid).ctxCancelGet x lid next).res k cont hk

/-- The factories of the context are untouched. -/
theorem C04_cancel_fac (cid : CtxId) (x : Ctx) (lid : TaskId) (next : Option TaskId) :
    (ctxCancelGet cid x lid next).1.fac = x.fac := by
  exact (CG.fac_closed cid).ctxCancelGet x lid next

/-- The log and the listener agree (C18): the events of the step are exactly those of the lookups that
looked again, read off their answers spliced in place (`CG.unnest`).

With `evsOf cid (ctxCancelGet cid x lid next).2` on the right the statement would be false: `evsOf` reads the top
level only and a resumed lookup reports inside its `.task t o` output, so that is `[]` for every `x`
(`CG.ctxCancelGet_evsOf`), while the log can grow: in an open context with no resources,
`fac = [(⟨1,"b"⟩, ⟨5,[1],"b",none,false,false,0⟩)]` (an ungated factory) and
`pending = [⟨3, 7, ⟨0,"a"⟩, false, [(8, ⟨1,"b"⟩, false)]⟩]`, `ctxCancelGet 1 x 7 none` resumes lookup 8, which
generates: outputs `[.task 7 [.raisedExc .cancelled], .task 8 [.val (.gen 1 5 0), .ev 1 e]]`, log `[e]`.
That form holds when the waiters wait through gated factories: `C04_cancel_log_sound_gated`. -/
theorem C04_cancel_log_sound (cid : CtxId) (x : Ctx) (lid : TaskId) (next : Option TaskId) :
    (ctxCancelGet cid x lid next).1.events =
      x.events ++ evsOf cid (CG.unnest (ctxCancelGet cid x lid next).2) := by
  fun_cases ctxCancelGet cid x lid next with
  | case1 p _ _ _ x' os hw =>
    cases congrArg Prod.fst hw
    cases congrArg Prod.snd hw
    show (resumeWaiters cid (dropGen x p.fid) (wakeOrder next p.waiters)).1.events = _
    rw [CG.resumeWaiters_log, CG.unnest_cons_task, evsOf_append]
    rfl
  | case2 | case3 => exact (List.append_nil _).symm

/-- `C04_cancel_log_sound` with the top level of the outputs on the right, under the hypothesis that makes that true: the
lookups that waited for the abandoned generation look up through gated asynchronous factories (the only
way to become a waiter: `ctxGet` suspends on gated asynchronous factories only, and factory ids identify
factories). They then suspend again or are answered from the table; nothing is dispatched. -/
theorem C04_cancel_log_sound_gated (cid : CtxId) (x : Ctx) (lid : TaskId) (next : Option TaskId)
    (hgated : ∀ p, x.pending.find? (fun q => q.task = lid) = some p → ∀ w ∈ p.waiters, ∀ f,
      alookup w.2.1 x.fac = some f → (f.isAsync && f.gated) = true) :
    (ctxCancelGet cid x lid next).1.events = x.events ++ evsOf cid (ctxCancelGet cid x lid next).2 := by
  rw [CG.ctxCancelGet_evsOf, List.append_nil]
  fun_cases ctxCancelGet cid x lid next with
  | case1 p hp _ _ x' os hw =>
    cases congrArg Prod.fst hw
    exact CG.resumeWaiters_events_gated cid (wakeOrder next p.waiters) (dropGen x p.fid)
      (fun w hw f hf => hgated p hp w ((CG.mem_wakeOrder next p.waiters w).mp hw) f hf)
  | case2 | case3 => rfl

/-- Other contexts are not affected (C02_frame for this operation). -/
theorem C04_cancel_scoped (w : World) (c d : CtxId) (lid : TaskId) (next : Option TaskId) (hne : c ≠ d) :
    (step w (.cancelGet c lid next)).1.ctx? d = w.ctx? d := by
  exact onCtx_ctx?_other w c d _ hne

/-- Non-vacuity (the history of seeded defects C04-h / C05-h / C06-h): a suspended factory, lookup 7 runs
it, lookups 8 and 9 wait; 7 is given up: 8 runs the factory again (the second call), 9 waits for that;
the generation then finishes and both get the one object of that generation. -/
example :
    let fac : FacArgs := ⟨[0, 1], "default", 3, none, true, true, 0, false⟩
    let ops : List Op := [.new 0 1 none, .enter 0 1, .addFactory 1 fac,
                          .get 7 1 ⟨0, "default"⟩ false, .get 8 1 ⟨1, "default"⟩ false, .get 9 1 ⟨0, "default"⟩ false,
                          .cancelGet 1 7 none]
    let r := run World.empty ops
    (r.2.getLast?,
     (r.1.ctx? 1).map (fun x => (x.pending.map (fun p => (p.fid, p.task, p.waiters.map (·.1))), countOf 3 x.callCount,
        x.res.length))) =
      (some [.task 7 [.raisedExc .cancelled]], some ([(3, 8, [9])], 2, 0)) := by
  rfl

end Asphalt
