/-
C02 — resources are scoped to the context tree: snapshot down, nothing up or sideways.
-/
import AsphaltProofs.Lemmas.Scope

namespace Asphalt
open K2

/-- The context whose tables, event log and teardown stack an operation may modify
(`new` creates it; `inject` works on the caller's current context). -/
def opCtx (w : World) : Op → Option CtxId
  | .new _ c _ => some c
  | .enter _ c => some c
  | .exit _ c _ => some c
  | .exitMid _ c _ _ => some c
  | .add c _ => some c
  | .addFactory c _ => some c
  | .getNowait c _ _ => some c
  | .get _ c _ _ => some c
  | .genFinish c _ _ => some c
  | .cancelGet c _ _ => some c
  | .addTeardown c _ _ => some c
  | .inject t _ _ _ => w.curOf t
  | _ => none

/-- What is visible through a context, and what it will do at teardown. -/
def Ctx.content (x : Ctx) : List (Key × Container) × List (Key × Factory) × List REvent × List Cb :=
  (x.res, x.fac, x.events, x.tds)

theorem K2.OwnStep.opCtx {w : World} {op : Op} {c : CtxId} {x y : Ctx} (h : OwnStep w op c x y) :
    opCtx w op = some c := by
  cases h with
  | loc hl => cases hl <;> first | rfl | assumption
  | enter t hop => rw [hop]; rfl
  | leave t be st hl => rcases hl with ⟨_, rfl⟩ | ⟨_, _, rfl⟩ <;> rfl

/-- A new context starts with exactly the static (non-generated) resources and the resource
factories of its parent — the explicit one, else the creating task's current context — as
they are at that moment; a root context starts empty. -/
theorem C02_snapshot (w : World) (t : TaskId) (c : CtxId) (parent : Option CtxId)
    (hfresh : w.ctx? c = none) :
    let p := match parent with | some p => some p | none => w.curOf t
    ∃ x, (step w (.new t c parent)).1.ctx? c = some x ∧ x.parent = p ∧ x.state = .inactive ∧
      x.res = (match p.bind w.ctx? with
               | some px => px.res.filter (fun kc => !kc.2.generated) | none => []) ∧
      x.fac = (match p.bind w.ctx? with | some px => px.fac | none => []) := by
  dsimp only [step]
  rw [hfresh]
  exact ⟨_, World.ctx?_setCtx_same _ _ _, rfl, rfl, rfl, rfl⟩

/-- Frame: an operation changes the content of no context other than the one it works on —
nothing added to a context ever becomes visible in its parent, its children (created
before), its siblings or unrelated contexts, and nothing added to a parent after a child
was created shows up in the child. -/
theorem C02_frame (w : World) (op : Op) (c : CtxId) (hc : opCtx w op ≠ some c) :
    ((step w op).1.ctx? c).map Ctx.content = (w.ctx? c).map Ctx.content := by
  cases hx : w.ctx? c with
  | none =>
    cases h : (step w op).1.ctx? c with
    | none => rfl
    | some x' =>
      obtain ⟨t, p, q, rfl, _⟩ := step_ctx_new w op c x' hx h
      exact absurd rfl hc
  | some x =>
    obtain ⟨y, ch, hy, rfl | hown⟩ := step_ctx w op c x hx
    · rw [hy]; rfl
    · exact absurd hown.opCtx hc

/-- Hence over any history: the content of `c` is untouched by all operations that work on
other contexts. -/
theorem C02_frame_run (w : World) (ops : List Op) (c : CtxId)
    (hc : ∀ op ∈ ops, ∀ w', opCtx w' op ≠ some c) :
    ((run w ops).1.ctx? c).map Ctx.content = (w.ctx? c).map Ctx.content :=
  run_keeps (P := fun w' => (w'.ctx? c).map Ctx.content = (w.ctx? c).map Ctx.content)
    (fun op ho w' h => (C02_frame w' op c (hc op ho w')).trans h) w rfl

/-- The snapshot is by value: a resource present in the parent when the child was created is
visible in the child under the same pair (the parent's table being functional, see
C03_functional) … -/
theorem C02_inherits_static (px : Ctx) (p : CtxId) (k : Key) (cont : Container)
    (hnd : NoDupKeys px.res) (hk : alookup k px.res = some cont) (hg : cont.generated = false) :
    alookup k (freshCtx (some p) (some px)).res = some cont := by
  have _ := hnd  -- not needed: the first match survives the filter
  exact alookup_filter_some _ k cont px.res hk (by simp [hg])

/-- … and a pair absent from the parent is absent from the new child. -/
theorem C02_inherits_nothing_else (px : Ctx) (p : CtxId) (k : Key)
    (hk : alookup k px.res = none) :
    alookup k (freshCtx (some p) (some px)).res = none := by
  exact alookup_filter_none _ k px.res hk

/-- Every entry sits under its own name and one of its own types, and a container is registered under all of
its types. -/
def ResWF (res : List (Key × Container)) : Prop :=
  ∀ k cont, alookup k res = some cont →
    cont.name = k.name ∧ k.ty ∈ cont.types ∧
      ∀ t ∈ cont.types, alookup ⟨t, cont.name⟩ res = some cont

theorem C02_reswf (w : World) (hr : Reachable w) (c : CtxId) (x : Ctx) (hx : w.ctx? c = some x) :
    ResWF x.res := by
  exact (reachable_resOK hr c x hx).2

/-- All lookup paths agree on the visible set: `get_resources(type)` lists exactly the pairs of
that type which `get_resource_nowait` / `get_resource` answer from the table. -/
theorem C02_get_all_agrees (x : Ctx) (hnd : NoDupKeys x.res) (hwf : ResWF x.res) (ty : TypeId)
    (n : String) (v : Val) :
    alookup n (ctxGetAll x ty) = some v ↔
      ∃ cont, alookup ⟨ty, n⟩ x.res = some cont ∧ cont.val = v := by
  rw [alookup_ctxGetAll x ⟨hnd, hwf⟩ ty n, Option.map_eq_some_iff]

/-- Non-vacuity: a three-level tree with a factory added to the middle context: visible in the
leaf created afterwards, not in the root, not in the leaf created before. -/
example :
    let fac : FacArgs := ⟨[0], "default", 3, none, false, false, 0, false⟩
    let ops : List Op := [.new 0 1 none, .enter 0 1, .new 0 2 none, .enter 0 2,
                          .new 0 3 none, .addFactory 2 fac, .new 0 4 none]
    let w := (run World.empty ops).1
    ((w.ctx? 1).map (fun x => x.fac.length), (w.ctx? 3).map (fun x => x.fac.length),
     (w.ctx? 4).map (fun x => x.fac.length)) = (some 0, some 0, some 1) := by
  decide +kernel

end Asphalt
