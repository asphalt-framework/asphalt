/-
C12 — the context of a service task / factory task, in the model's vocabulary: the new task is spawned by `t`
(`spawn`: it inherits `t`'s current context), creates a context of its own (`new … none`: the parent is what is
current for the creating task) and enters it.
-/
import AsphaltProofs.Props.C12

namespace Asphalt
open K2

/-- The task's current context is then its own new context, whose parent is the context that was current for `t`
where the task was started; what is current for `t` has not changed. -/
theorem C12_task_own_context (w : World) (t t' : TaskId) (c : CtxId) (hne : t ≠ t')
    (hfresh : w.ctx? c = none) (hp : w.curOf t ≠ some c) :
    let w1 := (step w (.spawn t t')).1
    let w2 := (step w1 (.new t' c none)).1
    let w3 := (step w2 (.enter t' c)).1
    w3.curOf t' = some c ∧ (w3.ctx? c).map Ctx.parent = some (w.curOf t) ∧
      (w3.ctx? c).map Ctx.state = some .opened ∧ w3.curOf t = w.curOf t := by
  intro w1 w2 w3
  have _ := hp   -- not needed: the three steps never ask what is current for `t`
  have h1c : w1.ctx? c = none := hfresh
  have h1cur : w1.curOf t' = w.curOf t := World.curOf_setCur_same _ _ _
  have h1t : w1.curOf t = w.curOf t := World.curOf_setCur_other _ _ _ _ hne.symm
  have h2 : w2 = w1.setCtx c (freshCtx (w.curOf t) ((w.curOf t).bind w1.ctx?)) := by
    dsimp only [w2, step]
    rw [h1c, h1cur]
  have h2c : w2.ctx? c = some (freshCtx (w.curOf t) ((w.curOf t).bind w1.ctx?)) := by
    rw [h2]; exact World.ctx?_setCtx_same _ _ _
  have h2t : w2.curOf t = w.curOf t := by rw [h2]; exact h1t
  obtain ⟨ch, hb⟩ := step_enter_ctx w2 t' c _ h2c rfl
  refine ⟨(C12_enter w2 t' c _ h2c rfl).1, ?_, ?_, ?_⟩
  · rw [hb]; rfl
  · rw [hb]; rfl
  · rw [C12_noninterference w2 (.enter t' c) t (fun e => hne (Option.some.inj e).symm)]; exact h2t

/-- … and with an explicit parent (`Context(ctx)`, what `start_service_task` on another context than the current one
does) the parent is that context, whatever is current. -/
theorem C12_task_explicit_parent (w : World) (t' : TaskId) (c p : CtxId) (hfresh : w.ctx? c = none) (hpc : p ≠ c) :
    let w2 := (step w (.new t' c (some p))).1
    let w3 := (step w2 (.enter t' c)).1
    w3.curOf t' = some c ∧ (w3.ctx? c).map Ctx.parent = some (some p) := by
  intro w2 w3
  have _ := hpc   -- not needed: `step_enter_ctx` holds also for a context that is its own parent
  have h2 : w2 = w.setCtx c (freshCtx (some p) (w.ctx? p)) := by
    dsimp only [w2, step]
    rw [hfresh]
    rfl
  have h2c : w2.ctx? c = some (freshCtx (some p) (w.ctx? p)) := by
    rw [h2]; exact World.ctx?_setCtx_same _ _ _
  obtain ⟨ch, hb⟩ := step_enter_ctx w2 t' c _ h2c rfl
  exact ⟨(C12_enter w2 t' c _ h2c rfl).1, by rw [hb]; rfl⟩

/-- Non-vacuity: task 0 inside context 1 starts task 1, which runs in its own context 2 - a child of 1. -/
example :
    let ops : List Op := [.new 0 1 none, .enter 0 1, .spawn 0 1, .new 1 2 none, .enter 1 2, .current 1, .parentOf 2, .current 0]
    (run World.empty ops).2.drop 5 = [[.cur (some 2)], [.parent (some 1)], [.cur (some 1)]] := by
  rfl

end Asphalt
