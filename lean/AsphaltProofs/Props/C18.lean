/-
C18 — resource_added announces every publication exactly once, on the right context.
`Ctx.events` is the ghost log of everything dispatched on a context's `resource_added`
signal; the `.ev c e` outputs of a step are what a listener on context `c` receives.
-/
import AsphaltProofs.Props.C02

namespace Asphalt

/-- Events announced to listeners of context `c` by a list of outputs, read at the top level of the list: what is
reported inside a `.body` or `.task` output (a teardown callback's body, a resumed lookup) is not looked at. -/
def evsOf (c : CtxId) : List Out → List REvent
  | [] => []
  | .ev c' e :: rest => if c' = c then e :: evsOf c rest else evsOf c rest
  | _ :: rest => evsOf c rest

theorem evsOf_cons_nonev (c : CtxId) (o : Out) (rest : List Out) (h : ∀ c' e, o ≠ .ev c' e) :
    evsOf c (o :: rest) = evsOf c rest := by
  cases o <;> first | rfl | exact absurd rfl (h _ _)

theorem evsOf_cons_ev (c c' : CtxId) (e : REvent) (rest : List Out) :
    evsOf c (.ev c' e :: rest) = if c' = c then e :: evsOf c rest else evsOf c rest := rfl

theorem evsOf_append (c : CtxId) (a b : List Out) : evsOf c (a ++ b) = evsOf c a ++ evsOf c b := by
  induction a with
  | nil => rfl
  | cons o a ih =>
    by_cases h : ∃ c' e, o = .ev c' e
    · obtain ⟨c', e, rfl⟩ := h
      rw [List.cons_append, evsOf_cons_ev, evsOf_cons_ev, ih]
      split <;> rfl
    · have hne : ∀ c' e, o ≠ .ev c' e := fun c' e he => h ⟨c', e, he⟩
      rw [List.cons_append, evsOf_cons_nonev _ _ _ hne, evsOf_cons_nonev _ _ _ hne, ih]

theorem LookupShape.log_sound {cid : CtxId} {x : Ctx} {r : Ctx × List Out}
    (h : LookupShape cid x r) :
    r.1.events = x.events ++ evsOf cid r.2 ∧ (evsOf cid r.2).length ≤ 1 := by
  rcases h with ⟨o, ho, h2, h1⟩ | ⟨o, e, ho, h2, h1⟩
  · rw [h2, h1, evsOf_cons_nonev cid o [] (Out.ne_ev_of_isAnswer ho)]
    exact ⟨(List.append_nil _).symm, Nat.zero_le 1⟩
  · rw [h2, h1, evsOf_cons_nonev cid o _ (Out.ne_ev_of_isAnswer ho), evsOf_cons_ev, if_pos rfl]
    exact ⟨rfl, Nat.le_refl 1⟩

theorem refusal_ne_ev {o : Out}
    (h : o = .typeError ∨ o = .valueError ∨ o = .conflict ∨ o = .badOp) (c : CtxId) (e : REvent) :
    o ≠ .ev c e := by
  rintro rfl
  rcases h with h | h | h | h <;> cases h

/-- `add_resource`: exactly one event on success — carrying the registered types, the name,
the description, and `is_factory = False` — and none otherwise. -/
theorem C18_add (cid : CtxId) (x : Ctx) (a : AddArgs) :
    ((ctxAdd cid x a).2 = [.ok, .ev cid ⟨addTypes a, a.name, a.desc, false⟩] ∧
      (ctxAdd cid x a).1.events = x.events ++ [⟨addTypes a, a.name, a.desc, false⟩]) ∨
    ((ctxAdd cid x a).1.events = x.events ∧ ∀ c e, Out.ev c e ∉ (ctxAdd cid x a).2) := by
  rcases ctxAdd_cases cid x a with ⟨_, h⟩ | ⟨_, o, ho, h⟩ | ⟨_, v, _, _, h⟩ <;> rw [h]
  · exact .inr ⟨rfl, fun c e hm => by cases List.mem_singleton.mp hm⟩
  · exact .inr ⟨rfl, fun c e hm =>
      refusal_ne_ev (ho.imp_right (.imp_right .inl)) c e (List.mem_singleton.mp hm).symm⟩
  · exact .inl ⟨rfl, rfl⟩

/-- `add_resource_factory`: likewise, with `is_factory = True`. -/
theorem C18_add_factory (cid : CtxId) (x : Ctx) (a : FacArgs) :
    ((ctxAddFactory cid x a).2 = [.ok, .ev cid ⟨a.types, a.name, a.desc, true⟩] ∧
      (ctxAddFactory cid x a).1.events = x.events ++ [⟨a.types, a.name, a.desc, true⟩]) ∨
    ((ctxAddFactory cid x a).1.events = x.events ∧ ∀ c e, Out.ev c e ∉ (ctxAddFactory cid x a).2) := by
  rcases ctxAddFactory_cases cid x a with ⟨_, h⟩ | ⟨_, o, ho, h⟩ | ⟨_, _, _, h⟩ <;> rw [h]
  · exact .inr ⟨rfl, fun c e hm => by cases List.mem_singleton.mp hm⟩
  · exact .inr ⟨rfl, fun c e hm => refusal_ne_ev ho c e (List.mem_singleton.mp hm).symm⟩
  · exact .inl ⟨rfl, rfl⟩

/-- A lookup that merely returns an already existing resource dispatches nothing. -/
theorem C18_lookup_silent (cid : CtxId) (x : Ctx) (t : TaskId) (k : Key) (cont : Container)
    (opt : Bool) (hk : alookup k x.res = some cont) :
    (ctxGetNowait cid x k opt).1.events = x.events ∧ (ctxGet cid x t k opt).1.events = x.events ∧
      evsOf cid (ctxGetNowait cid x k opt).2 = [] ∧ evsOf cid (ctxGet cid x t k opt).2 = [] := by
  cases hs : x.state.usable with
  | false => rw [ctxGetNowait_unusable cid x k opt hs, ctxGet_unusable cid x t k opt hs]; exact ⟨rfl, rfl, rfl, rfl⟩
  | true =>
    obtain ⟨h1, h2, _⟩ := lookup_hit cid x k opt cont hs hk
    rw [h1, h2 t]; exact ⟨rfl, rfl, rfl, rfl⟩

/-- A lookup through the sync API dispatches at most one event (when it generates: the one of
`C18_generated_event`), and the log records exactly what the listener receives. -/
theorem C18_generation (cid : CtxId) (x : Ctx) (k : Key) (opt : Bool) :
    (ctxGetNowait cid x k opt).1.events = x.events ++ evsOf cid (ctxGetNowait cid x k opt).2 ∧
      (evsOf cid (ctxGetNowait cid x k opt).2).length ≤ 1 := by
  exact (ctxGetNowait_shape cid x k opt).log_sound

/-- The log and the listener agree for every context-level operation of the async API too. -/
theorem C18_log_sound_get (cid : CtxId) (x : Ctx) (t : TaskId) (k : Key) (opt : Bool) :
    (ctxGet cid x t k opt).1.events = x.events ++ evsOf cid (ctxGet cid x t k opt).2 := by
  exact (ctxGet_shape cid x t k opt).log_sound.1

/-- The first generation's event carries exactly the types it was stored under. -/
theorem C18_generated_event (cid : CtxId) (x : Ctx) (f : Factory) (v : Val) :
    let free := f.types.filter fun t => !acontains ⟨t, f.name⟩ x.res
    (free ≠ [] → (storeGenerated cid x f v).2 = [.ev cid ⟨free, f.name, f.desc, false⟩] ∧
        (storeGenerated cid x f v).1.events = x.events ++ [⟨free, f.name, f.desc, false⟩]) ∧
    (free = [] → (storeGenerated cid x f v).2 = [] ∧ (storeGenerated cid x f v).1.events = x.events) := by
  intro free
  rcases storeGenerated_cases cid x f v with ⟨h0, h⟩ | ⟨h0, h⟩ <;> rw [h]
  · exact ⟨fun hne => absurd h0 hne, fun _ => ⟨rfl, rfl⟩⟩
  · exact ⟨fun _ => ⟨rfl, rfl⟩, fun he => absurd he h0⟩

/-- On no other context: an operation leaves the event log of every context it does not work on
untouched (C02_frame on the `events` component). -/
theorem C18_elsewhere (w : World) (op : Op) (c : CtxId) (hc : opCtx w op ≠ some c) :
    ((step w op).1.ctx? c).map Ctx.events = (w.ctx? c).map Ctx.events := by
  have := congrArg (Option.map (fun p : _ × _ × List REvent × _ => p.2.2.1)) (C02_frame w op c hc)
  simpa [Option.map_map, Function.comp_def, Ctx.content] using this

/-- Events are announced only to the listeners of the context the operation works on. -/
theorem C18_outputs_local (w : World) (c d : CtxId) (a : AddArgs) (hne : c ≠ d) :
    evsOf d (step w (.add c a)).2 = [] := by
  dsimp only [step, onCtx]
  cases w.ctx? c with
  | none => rfl
  | some x =>
    dsimp only
    rcases ctxAdd_cases c x a with ⟨_, h⟩ | ⟨_, o, ho, h⟩ | ⟨_, v, _, _, h⟩ <;> rw [h]
    · rfl
    · exact evsOf_cons_nonev d o [] (refusal_ne_ev (ho.imp_right (.imp_right .inl)))
    · simp [evsOf, hne]

/-- Non-vacuity: parent / child / sibling with one successful add, one conflicting add and one
generation in the child. -/
example :
    let a1 : AddArgs := ⟨[0], 0, "default", some 1, none, false, none, false⟩
    let fac : FacArgs := ⟨[1], "default", 3, none, false, false, 0, false⟩
    let ops : List Op := [.new 0 1 none, .enter 0 1, .addFactory 1 fac, .new 0 2 none, .new 0 3 none,
                          .enter 0 2, .add 2 a1, .add 2 a1, .getNowait 2 ⟨1, "default"⟩ false,
                          .getNowait 2 ⟨1, "default"⟩ false]
    let w := (run World.empty ops).1
    ((w.ctx? 1).map (fun x => x.events.length), (w.ctx? 2).map (fun x => x.events.length),
     (w.ctx? 3).map (fun x => x.events.length)) = (some 1, some 2, some 0) := by
  decide +kernel

end Asphalt
