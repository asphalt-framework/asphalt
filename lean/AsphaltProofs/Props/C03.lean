/-
C03 — one resource per (type, name) per context; failed adds change nothing.
-/
import AsphaltProofs.Lemmas.World

namespace Asphalt
open K2

/-- The resource and factory tables of every context of every reachable world are
functional: each (type, name) pair occurs at most once. -/
theorem C03_functional (w : World) (hr : Reachable w) (c : CtxId) (x : Ctx)
    (hx : w.ctx? c = some x) : NoDupKeys x.res ∧ NoDupKeys x.fac := by
  refine reachable_ctx (P := fun x => NoDupKeys x.res ∧ NoDupKeys x.fac) (fun q px h => ?_)
    (fun _ _ _ _ _ hown h => ⟨hown.keeps.ndr h.1, hown.keeps.ndf h.2⟩) (fun _ _ h => h) hr c x hx
  cases px with
  | none => exact ⟨NoDupKeys_nil, NoDupKeys_nil⟩
  | some px => exact ⟨NoDupKeys_filter _ _ (h px rfl).1, (h px rfl).2⟩

/-- Nothing is ever replaced or removed: a resource registered under a pair stays registered
under it, as the same container, across every operation (in any world, reachable or not). -/
theorem C03_stable (w : World) (c : CtxId) (x : Ctx) (k : Key) (cont : Container) (op : Op)
    (hx : w.ctx? c = some x) (hk : alookup k x.res = some cont) :
    ∃ x', (step w op).1.ctx? c = some x' ∧ alookup k x'.res = some cont := by
  obtain ⟨x', hx', hkeep⟩ := step_some w op c x hx
  exact ⟨x', hx', hkeep.res k cont hk⟩

/-- Likewise for factories. -/
theorem C03_stable_factory (w : World) (c : CtxId) (x : Ctx) (k : Key) (f : Factory) (op : Op)
    (hx : w.ctx? c = some x) (hk : alookup k x.fac = some f) :
    ∃ x', (step w op).1.ctx? c = some x' ∧ alookup k x'.fac = some f := by
  obtain ⟨x', hx', hkeep⟩ := step_some w op c x hx
  exact ⟨x', hx', hkeep.fac k f hk⟩

/-- A registered pair is answered from the table, with the same object, by both lookup APIs,
as long as the context is usable. -/
theorem C03_lookup_registered (cid : CtxId) (x : Ctx) (t : TaskId) (k : Key) (cont : Container)
    (opt : Bool) (hs : x.state.usable = true) (hk : alookup k x.res = some cont) :
    ctxGetNowait cid x k opt = (x, [.val cont.val]) ∧ ctxGet cid x t k opt = (x, [.val cont.val]) := by
  exact ⟨(lookup_hit cid x k opt cont hs hk).1, (lookup_hit cid x k opt cont hs hk).2.1 t⟩

/-- Adding under a pair that is already taken — by any one of several types — raises
ResourceConflict (for otherwise valid arguments). -/
theorem C03_conflict (cid : CtxId) (x : Ctx) (a : AddArgs) (v : Nat) (ty : TypeId)
    (hs : x.state.usable = true) (hv : a.val = some v) (hn : validName a.name = true)
    (hbt : a.badType = false) (htd : a.tdNotCallable = false)
    (hty : ty ∈ addTypes a) (htaken : acontains ⟨ty, a.name⟩ x.res = true) :
    ctxAdd cid x a = (x, [.conflict]) := by
  have hany : (addTypes a).any (fun t => acontains ⟨t, a.name⟩ x.res) = true :=
    List.any_eq_true.mpr ⟨ty, hty, htaken⟩
  unfold ctxAdd
  simp only [hs, hv, hn, hbt, htd, hany, Bool.not_true, Bool.and_false, Bool.false_eq_true,
    if_false, if_true]

/-- Likewise a second factory for a pair. -/
theorem C03_conflict_factory (cid : CtxId) (x : Ctx) (a : FacArgs) (ty : TypeId)
    (hs : x.state = .opened) (hn : validName a.name = true) (hne : a.types ≠ [])
    (hnone : a.noneInTypes = false) (hty : ty ∈ a.types)
    (htaken : acontains ⟨ty, a.name⟩ x.fac = true) :
    ctxAddFactory cid x a = (x, [.conflict]) := by
  have hany : a.types.any (fun t => acontains ⟨t, a.name⟩ x.fac) = true :=
    List.any_eq_true.mpr ⟨ty, hty, htaken⟩
  have hne' : a.types.isEmpty = false := by
    cases h : a.types with
    | nil => exact absurd h hne
    | cons _ _ => rfl
  unfold ctxAddFactory
  simp only [hs, hn, hne', hnone, hany, ne_eq, not_true_eq_false, Bool.not_true,
    Bool.false_eq_true, if_false, if_true]

/-- An `add_resource` call either succeeds (answers `ok` and exactly one event) or leaves the
context unchanged — whatever made it fail: wrong state, invalid type, `None` value, invalid
name, invalid teardown callback, conflict on any of the types. -/
theorem C03_failed_add_noop (cid : CtxId) (x : Ctx) (a : AddArgs) :
    (∃ e, (ctxAdd cid x a).2 = [.ok, .ev cid e]) ∨
    ((ctxAdd cid x a).1 = x ∧ ∃ o, (ctxAdd cid x a).2 = [o] ∧
      (o = .runtimeError x.state ∨ o = .typeError ∨ o = .valueError ∨ o = .conflict)) := by
  rcases ctxAdd_cases cid x a with ⟨_, h⟩ | ⟨_, o, ho, h⟩ | ⟨_, v, _, _, h⟩ <;> rw [h]
  · exact .inr ⟨rfl, _, rfl, .inl rfl⟩
  · exact .inr ⟨rfl, o, rfl, .inr ho⟩
  · exact .inl ⟨_, rfl⟩

theorem C03_failed_add_factory_noop (cid : CtxId) (x : Ctx) (a : FacArgs) :
    (∃ e, (ctxAddFactory cid x a).2 = [.ok, .ev cid e]) ∨
    ((ctxAddFactory cid x a).1 = x ∧ ∃ o, (ctxAddFactory cid x a).2 = [o] ∧
      (o = .runtimeError x.state ∨ o = .typeError ∨ o = .valueError ∨ o = .conflict ∨ o = .badOp)) := by
  rcases ctxAddFactory_cases cid x a with ⟨_, h⟩ | ⟨_, o, ho, h⟩ | ⟨_, _, _, h⟩ <;> rw [h]
  · exact .inr ⟨rfl, _, rfl, .inl rfl⟩
  · exact .inr ⟨rfl, o, rfl, .inr ho⟩
  · exact .inl ⟨_, rfl⟩

/-- World level: a failing add leaves the whole world unchanged. -/
theorem C03_failed_add_world (w : World) (c : CtxId) (x : Ctx) (a : AddArgs)
    (hx : w.ctx? c = some x) :
    (∃ e, (step w (.add c a)).2 = [.ok, .ev c e]) ∨ (step w (.add c a)).1 = w := by
  dsimp only [step]
  rw [onCtx_some w c _ x hx]
  rcases C03_failed_add_noop c x a with ⟨e, he⟩ | ⟨h1, _⟩
  · exact Or.inl ⟨e, he⟩
  · right
    rw [h1]
    exact World.setCtx_self w c x hx

/-- A successful add registers the value under every requested type. -/
theorem C03_add_registers (cid : CtxId) (x : Ctx) (a : AddArgs) (e : REvent)
    (h : (ctxAdd cid x a).2 = [.ok, .ev cid e]) (ty : TypeId) (hty : ty ∈ addTypes a) :
    ∃ v, a.val = some v ∧
      alookup ⟨ty, a.name⟩ (ctxAdd cid x a).1.res =
        some ⟨.static v, addTypes a, a.name, a.desc, false⟩ := by
  rcases ctxAdd_cases cid x a with ⟨_, e⟩ | ⟨_, o, ho, e⟩ | ⟨_, v, hv, _, e⟩ <;> rw [e] at h ⊢
  · cases h
  · cases h
  · exact ⟨v, hv, by rw [storeAll_isStore.lookup, if_pos ⟨rfl, hty⟩]⟩

/-- Generation never replaces: a multi-type factory generating into a context that already
holds one of its types leaves that pair alone (instance of C03_stable, spelled out for the
sync API). -/
theorem C03_generation_keeps_existing (cid : CtxId) (x : Ctx) (k k' : Key) (cont : Container)
    (opt : Bool) (hk : alookup k' x.res = some cont) :
    alookup k' (ctxGetNowait cid x k opt).1.res = some cont := by
  exact ((ext_closed cid).ctxGetNowait x k opt).res k' cont hk

/-- Non-vacuity (finding D3): static (B,n); factory [A,B]; generation via (A,n) keeps (B,n). -/
example :
    let addB : AddArgs := ⟨[1], 1, "n", some 7, none, false, none, false⟩
    let fac : FacArgs := ⟨[0, 1], "n", 3, none, false, false, 0, false⟩
    let ops : List Op := [.new 0 1 none, .enter 0 1, .add 1 addB, .addFactory 1 fac,
                          .getNowait 1 ⟨0, "n"⟩ false, .getNowait 1 ⟨1, "n"⟩ false]
    ((run World.empty ops).1.ctx? 1).map (fun x => (alookup ⟨1, "n"⟩ x.res).map (·.val)) =
      some (some (.static 7)) := by
  decide +kernel

end Asphalt
