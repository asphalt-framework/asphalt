/-
C01 (continued) — cancellation that arrives while the teardown is already running.
Model: `midStack`, `midEff` and the `exitMid` case of `step` in
`AsphaltModel/Context.lean`: the block was left normally or by an exception, and the scope around
it is cancelled during the directly registered callback `k`.

The statements of C01.lean about `runTeardown` (exactly once, LIFO and argument, one at a time,
all collected, frame) are for *every* stack, hence also for `midEff be k st`; the theorems below
say what the stack is and that no callback is lost.
-/
import AsphaltProofs.Props.C01

namespace Asphalt
open K2

/-- The shape of the stack: everything above callback `k` is untouched, `k` keeps its body and
registers what it registered, ends with the cancellation if it is asynchronous and as written if not, and
what it registered and everything below run in the cancelled scope, i.e. like the stack of a block that was
left by cancellation (`C01_cancel_shape`). -/
theorem C01_midcancel_shape (k : Nat) (above below : List Cb) (p a : Bool) (body : List BodyOp)
    (regs : List Cb) (r : Option Exc) (hab : ∀ cb ∈ above, cb.id ≠ k) :
    midStack k (above ++ Cb.mk k p a body regs r :: below) =
      above ++ Cb.mk k p a body (regs.map Cb.underCancel) (if a then some .cancelled else r) ::
        below.map Cb.underCancel := by
  rw [Mid.midStack_append_miss k above _ hab, Mid.midStack_cons_hit]

theorem runOrder_midStack (k : Nat) (above below : List Cb) (p a : Bool) (body : List BodyOp)
    (regs : List Cb) (r : Option Exc) (hab : ∀ cb ∈ above, cb.id ≠ k) :
    runOrder (midStack k (above ++ Cb.mk k p a body regs r :: below)) =
      runOrder above ++ Cb.mk k p a body (regs.map Cb.underCancel) (if a then some .cancelled else r) ::
        runOrder ((regs.map Cb.underCancel).reverse ++ below.map Cb.underCancel) := by
  rw [C01_midcancel_shape k above below p a body regs r hab, runOrder_append, runOrder_cons]

/-- No directly registered callback `k`: the cancellation never arrives, nothing changes. -/
theorem C01_midcancel_absent (k : Nat) (st : List Cb) (h : ∀ cb ∈ st, cb.id ≠ k) :
    midStack k st = st := by
  have h' := Mid.midStack_append_miss k st [] h
  rwa [List.append_nil, Mid.midStack_nil, List.append_nil] at h'

/-- A block that was itself left by cancellation is cancelled throughout: `exitMid` is `exit`. -/
theorem C01_midcancel_of_cancelled (w : World) (t : TaskId) (c : CtxId) (k : Nat) :
    step w (.exitMid t c (.raised .cancelled) k) = step w (.exit t c (.raised .cancelled)) :=
  rfl

theorem step_exitMid_eq_exit (w : World) (t : TaskId) (c : CtxId) (be : BlockEnd) (k : Nat) (x : Ctx)
    (hx : w.ctx? c = some x) (h : midEff be k x.tds = effStack be x.tds) :
    step w (.exitMid t c be k) = step w (.exit t c be) := by
  refine exitWith_congr w t c be _ _ fun x' hx' => ?_
  cases hx.symm.trans hx'
  exact h

/-- … and so is an `exitMid` whose callback is not on the stack. -/
theorem C01_midcancel_absent_exit (w : World) (t : TaskId) (c : CtxId) (be : BlockEnd) (k : Nat) (x : Ctx)
    (hx : w.ctx? c = some x) (h : ∀ cb ∈ x.tds, cb.id ≠ k) :
    step w (.exitMid t c be k) = step w (.exit t c be) := by
  refine step_exitMid_eq_exit w t c be k x hx ?_
  rcases Mid.midEff_cases be k x.tds with rfl | ⟨h1, h2⟩
  · rfl
  · rw [h1, h2, C01_midcancel_absent k _ h]

/-- Whenever the cancellation arrives, every callback registered on the context before the block
was left is still invoked (exactly once by `C01_exactly_once`, with the argument of
`C01_lifo_and_argument`: the exception that ended the block, not the cancellation) … -/
theorem C01_midcancel_all_invoked (be : BlockEnd) (k : Nat) (st : List Cb) :
    ∀ cb ∈ st, ∃ cb' ∈ runOrder (midEff be k st), cb'.id = cb.id ∧ cb'.passExc = cb.passExc ∧
      cb'.isAsync = cb.isAsync :=
  invoked_of_keys (Mid.midEff_key be k st)

/-- … the directly registered ones in their LIFO order … -/
theorem C01_midcancel_lifo (be : BlockEnd) (k : Nat) (st : List Cb) :
    (st.map Cb.id).Sublist ((runOrder (midEff be k st)).map Cb.id) :=
  lifo_of_keys (Mid.midEff_key be k st)

/-- … what ran before the cancellation arrived ran exactly as registered, including everything it
registered during the teardown … -/
theorem C01_midcancel_before (k : Nat) (above below : List Cb) (c : Cb)
    (hab : ∀ cb ∈ above, cb.id ≠ k) (hk : c.id = k) :
    ∃ rest, runOrder (midStack k (above ++ c :: below)) = runOrder above ++ rest ∧
      (rest.head?.map Cb.id) = some k := by
  obtain ⟨id, p, a, body, regs, r⟩ := c
  change id = k at hk
  subst hk
  exact ⟨_, runOrder_midStack id above below p a body regs r hab, rfl⟩

/-- … and the cancellation of the callback during which it arrived is collected like any other
exception (so is that of every asynchronous callback after it, by `C01_cancel_collected`'s
argument; `C01_all_collected` gives the complete list). -/
theorem C01_midcancel_collected (cid : CtxId) (cur : Option CtxId) (be : BlockEnd) (k : Nat) (st : List Cb)
    (x : Ctx) (cb : Cb) (hm : cb ∈ st) (hk : cb.id = k) (ha : cb.isAsync = true) :
    Exc.cancelled ∈ (runTeardown cid cur be (midEff be k st) x).2.2 := by
  rcases Mid.midEff_cases be k st with rfl | ⟨h, _⟩
  · exact C01_cancel_collected cid cur st x cb hm ha
  · rw [h]
    obtain ⟨c', hm', hr⟩ := Mid.midStack_cancelled k st cb hm hk ha
    exact raises_collected cid cur be _ x c' .cancelled hm' hr

/-- The same rule as for `exit` (`C01_outcome_group`). -/
theorem C01_midcancel_outcome_group (w : World) (t : TaskId) (c : CtxId) (be : BlockEnd) (k : Nat) (x : Ctx)
    (hx : w.ctx? c = some x) (hs : x.state = .opened)
    (hne : (runTeardown c (w.curOf t) be (midEff be k x.tds) { x with state := .closing, tds := [] }).2.2 ≠ []) :
    (step w (.exitMid t c be k)).2 =
      (runTeardown c (w.curOf t) be (midEff be k x.tds) { x with state := .closing, tds := [] }).2.1 ++
        [.closed, .exitGroup (runTeardown c (w.curOf t) be (midEff be k x.tds) { x with state := .closing, tds := [] }).2.2] := by
  rw [step_exitMid_exitWith, exitWith_opened w t c be _ x hx hs, exitOutcome_group _ _ _ hne]

/-- Hence: if the cancellation arrives during an asynchronous callback of the context, the caller
sees one exception group, and the cancellation is in it - whatever the block's own outcome was. -/
theorem C01_midcancel_surfaces (w : World) (t : TaskId) (c : CtxId) (be : BlockEnd) (k : Nat) (x : Ctx) (cb : Cb)
    (hx : w.ctx? c = some x) (hs : x.state = .opened) (hm : cb ∈ x.tds) (hk : cb.id = k)
    (ha : cb.isAsync = true) :
    ∃ excs, (step w (.exitMid t c be k)).2.getLast? = some (.exitGroup excs) ∧ Exc.cancelled ∈ excs := by
  have hc := C01_midcancel_collected c (w.curOf t) be k x.tds { x with state := .closing, tds := [] }
    cb hm hk ha
  refine ⟨_, ?_, hc⟩
  rw [C01_midcancel_outcome_group w t c be k x hx hs (fun h => by rw [h] at hc; cases hc)]
  rw [List.getLast?_append]
  rfl

/-- Afterwards the context is closed and its callback stack is empty. -/
theorem C01_midcancel_closed_afterwards (w : World) (t : TaskId) (c : CtxId) (be : BlockEnd) (k : Nat) (x : Ctx)
    (hx : w.ctx? c = some x) (hs : x.state = .opened) :
    ∃ x', (step w (.exitMid t c be k)).1.ctx? c = some x' ∧ x'.state = .closed ∧ x'.tds = [] :=
  exitWith_closed w t c be _ x hx hs

section
unseal runOrder
/-- Non-vacuity (observed identically on both back-ends, harness case "mid"): the
block ended with an exception, the scope is cancelled during the asynchronous #3, which has
registered the asynchronous #31: #5 and #4 run as registered (#4 raises), #3 does its work and ends
cancelled, #31 and #2 are invoked and cancelled, the synchronous #1 runs as usual. -/
example :
    let c1 := Cb.mk 1 false false [] [] none
    let c2 := Cb.mk 2 true true [] [] (some (.exn 1))
    let c31 := Cb.mk 31 false true [] [] none
    let c3 := Cb.mk 3 true true [.current] [c31] none
    let c4 := Cb.mk 4 false true [] [] (some (.exn 0))
    let c5 := Cb.mk 5 false false [] [] none
    (runOrder (midEff (.raised (.exn 2)) 3 [c5, c4, c3, c2, c1])).map Cb.id = [5, 4, 3, 31, 2, 1] ∧
      (runOrder (midEff (.raised (.exn 2)) 3 [c5, c4, c3, c2, c1])).filterMap Cb.raises =
        [.exn 0, .cancelled, .cancelled, .cancelled] ∧
      (runOrder (midEff (.raised (.exn 2)) 3 [c5, c4, c3, c2, c1])).map Cb.body =
        [[], [], [.current], [], [], []] := by
  exact ⟨rfl, rfl, rfl⟩
end

end Asphalt
