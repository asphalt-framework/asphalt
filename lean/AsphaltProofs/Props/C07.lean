/-
C07 — a failing or stalling component aborts startup cleanly with a precise error.
Over the start-up LTS (AsphaltModel/Startup.lean). Hypothesis of the statement kept explicit:
exactly one component fails, with an Exception (`step?` accepts a `failed` label only while no
outcome has been decided).
-/
import AsphaltProofs.Lemmas.Startup

namespace Asphalt
open St

def SReach7 (prog : List CompSpec) (to : Bool) (s : SSt) : Prop :=
  ∃ ls, Exec (SSt.init prog to) ls s

/-- The error names the phase, the component and its class, with the original exception as cause. -/
theorem C07_error (s s' : SSt) (i e : Nat) (h : step? s (.failed i e) = some s') :
    ∃ c ph rest, s.spec? i = some c ∧ s.current i = some (ph, .fail e :: rest, none) ∧
      s.result = none ∧ s'.result = some (.raised (.componentStart ph i c.cls e)) := by
  cases Step.of_step? h with
  | failed _ hc hcur hr => exact ⟨_, _, _, hc, hcur, hr, rfl⟩

theorem C07_error_creating (s s' : SSt) (i : Nat) (h : step? s (.ctorFailed i) = some s') :
    ∃ c, s.spec? i = some c ∧ s'.result = some (.raised (.componentStart .creating i c.cls 0)) := by
  cases Step.of_step? h with
  | ctorFailed _ hc => exact ⟨_, hc, rfl⟩

/-- Once decided, the outcome never changes … -/
theorem C07_outcome_final (s s' : SSt) (l : Lab) (r : StartResult) (hr : s.result = some r)
    (h : step? s l = some s') : s'.result = some r :=
  step?_result_stable h hr

/-- … and what start_component raises is exactly that error. -/
theorem C07_raises_decided (s s' : SSt) (e : StartErr) (h : step? s (.raised e) = some s') :
    s.result = some (.raised e) ∧ s'.reported = true := by
  cases Step.of_step? h with
  | raised _ hr => exact ⟨hr, rfl⟩

/-- When start_component raises, every component that was inside a prepare()/start() has finished it or
has been stopped. -/
theorem C07_all_stopped (s s' : SSt) (e : StartErr) (h : step? s (.raised e) = some s') (i : Nat)
    (hi : i < s.prog.length) : s.current i = none := by
  cases Step.of_step? h with
  | raised _ _ hall => exact hall i hi

/-- Once start_component has raised (or returned) only the teardown of the surrounding context is left. -/
theorem C07_quiescent (s s' : SSt) (l : Lab) (hrep : s.reported = true) (h : step? s l = some s') :
    (∃ id, l = .tdRun id) ∨ l = .instantOver := by
  exact (step?_of_reported h hrep).1

/-- After the virtual instant of the failure has passed, components can only observe their cancellation,
and the error surfaces. -/
theorem C07_after_instant (s s' : SSt) (l : Lab) (hres : s.result.isSome = true) (hg : s.grace = false)
    (hrep : s.reported = false) (h : step? s l = some s') :
    (∃ i, l = .cancelSeen i) ∨ (∃ e, l = .raised e) ∨ l = .instantOver := by
  have hlive : s.live = false := by
    cases hr : s.result with
    | none => simp [hr] at hres
    | some r => simp [SSt.live, hr, hg]
  rcases step?_live h with hl | hl | hl | ⟨id, rfl⟩ | hl
  · rw [hlive] at hl; cases hl
  · exact .inl hl
  · exact .inr (.inl hl)
  · cases Step.of_step? h with
    | tdRun hr => rw [hrep] at hr; cases hr
  · exact .inr (.inr hl)

/-- The start() of none of the failing component's ancestors is ever run. -/
theorem C07_ancestors (prog : List CompSpec) (to : Bool) (s : SSt) (h : SReach7 prog to s)
    (hwf : wfProg prog = true) (i e a : Nat) (hf : Lab.failed i e ∈ s.hist) (ha : Desc prog i a) :
    Lab.startBegin a ∉ s.hist := by
  have _ := hwf   -- not needed: a component among its own descendants could not begin start() either
  obtain ⟨ls, hls⟩ := h
  have hi := inv_of_exec hls
  rw [exec_init_hist hls] at hf ⊢
  intro hsb
  -- the failed phase stays cancelled, but when start() of `a` began `i` had finished both phases for good
  obtain ⟨h1, h2⟩ := exec_started_desc hls hsb (hi.prog_eq ▸ ha)
  rcases exec_failed_cancelled hls hf with hc | hc
  · rcases hi.prepL_of_prepFinished h1 with h | h <;> rw [h] at hc <;> cases hc
  · rcases hi.startL_of_startFinished h2 with h | h <;> rw [h] at hc <;> cases hc

/-- start_component does not return after a failure. -/
theorem C07_no_return_after_failure (prog : List CompSpec) (to : Bool) (s : SSt) (h : SReach7 prog to s)
    (i e : Nat) (hf : Lab.failed i e ∈ s.hist) : Lab.returned ∉ s.hist := by
  obtain ⟨ls, hls⟩ := h
  rw [exec_init_hist hls] at hf ⊢
  intro hr
  obtain ⟨err, he⟩ := exec_failed_raised hls hf
  rw [exec_returned_result hls hr] at he
  cases he

/-- The time-out fires only while the start-up has not finished, and then TimeoutError is the outcome. -/
theorem C07_timeout (s s' : SSt) (h : step? s .timeoutFired = some s') :
    s.hasTimeout = true ∧ s.result = none ∧ s.subtreeDone s.fuel 0 = false ∧
      s'.result = some (.raised .timeout) := by
  cases Step.of_step? h with
  | timeoutFired _ hto hr _ hsd => exact ⟨hto, hr, hsd, rfl⟩

/-- A start-up that finishes in time is never affected by the time-out. -/
theorem C07_in_time (s : SSt) (h : s.subtreeDone s.fuel 0 = true ∨ s.result.isSome = true) :
    step? s .timeoutFired = none := by
  cases hs : step? s .timeoutFired with
  | none => rfl
  | some s' =>
    cases Step.of_step? hs with
    | timeoutFired _ _ hr _ hsd =>
      rcases h with h | h
      · rw [hsd] at h; cases h
      · rw [hr] at h; cases h

/-- What was registered before the failure stays owned by the surrounding context: failure,
time-out and cancellation do not touch its teardown stack or its resources … -/
theorem C07_registered_stays (s s' : SSt) (l : Lab) (h : step? s l = some s')
    (hl : (∃ i e, l = .failed i e) ∨ l = .timeoutFired ∨ (∃ i, l = .cancelSeen i) ∨ (∃ e, l = .raised e) ∨
          l = .instantOver ∨ (∃ i, l = .ctorFailed i)) :
    s'.tds = s.tds ∧ s'.res = s.res ∧ s'.fac = s.fac := by
  rcases hl with ⟨i, e, rfl⟩ | rfl | ⟨i, rfl⟩ | ⟨e, rfl⟩ | rfl | ⟨i, rfl⟩ <;>
    cases Step.of_step? h <;> exact ⟨rfl, rfl, rfl⟩

/-- … and is torn down in reverse order of registration when that context is left. -/
theorem C07_cleanup_order (s s' : SSt) (ls : List Lab) (hrep : s.reported = true) (h : Exec s ls s') :
    (ls.filterMap fun l => match l with | .tdRun id => some id | _ => none) ++ s'.tds = s.tds := by
  induction h with
  | nil s => simp
  | cons s s1 s2 l ls hstep _ ih =>
    rcases step?_reported hrep hstep with ⟨id, rest, rfl, htds, rfl⟩ | ⟨rfl, rfl⟩
    · simpa [htds] using ih hrep
    · simpa using ih hrep

/-- Non-vacuity: a grandchild fails in prepare() while its uncle is blocked on a lookup and its
sibling is in the middle of start(). -/
example :
    let prog : List CompSpec := [
      ⟨"", none, 0, false, "default", none, some [], [1, 4]⟩,
      ⟨"a", some 0, 1, false, "default", none, some [], [2, 3]⟩,
      ⟨"a.x", some 1, 2, false, "default", some [.tick 1, .fail 2], none, []⟩,
      ⟨"a.y", some 1, 3, false, "default", none, some [.regTd 9, .tick 5], []⟩,
      ⟨"u", some 0, 4, false, "default", none, some [.await 1 "never"], []⟩]
    let tr : List Lab := [.construct 0, .construct 1, .construct 2, .construct 3, .construct 4,
      .prepBegin 2, .startBegin 3, .regTd 3 9, .startBegin 4, .req 4 ⟨1, "never"⟩, .tick 2, .failed 2 2,
      .cancelSeen 3, .cancelSeen 4, .raised (.componentStart .preparing 2 2 2), .tdRun 9]
    (match accept (SSt.init prog true) tr 0 with
     | .ok s => s.reported && s.tds.isEmpty
     | .error _ => false) = true := by
  decide +kernel

end Asphalt
