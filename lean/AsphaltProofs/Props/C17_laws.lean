/-
C17, continued — laws of the right-biased deep merge that callers lean on without saying so: re-running a
deployment step, a component whose defaults are its configuration (idempotence, absorption), the "nothing merged
with nothing" cases of the harness (an empty side is neutral).
-/
import AsphaltModel.Config
import AsphaltProofs.Props.C17
import AsphaltProofs.Lemmas.Config

namespace Asphalt

mutual
/-- Every mapping inside the value, at every depth, has pairwise distinct keys. -/
def Cfg.DeepWF : Cfg → Prop
  | .atom _ => True
  | .dict kvs => NoDupKeys kvs ∧ DictDeepWF kvs
def DictDeepWF : List (String × Cfg) → Prop
  | [] => True
  | (_, v) :: rest => v.DeepWF ∧ DictDeepWF rest
end

/-- What a Python dict is, at every level. -/
def Dict.DeepWF (d : Dict) : Prop := NoDupKeys d ∧ DictDeepWF d

theorem DeepWF_nil : Dict.DeepWF [] := ⟨NoDupKeys_nil, trivial⟩

theorem dictDeepWF_iff (l : List (String × Cfg)) : DictDeepWF l ↔ ∀ p ∈ l, p.2.DeepWF := by
  induction l with
  | nil => simp [DictDeepWF]
  | cons p l ih =>
    obtain ⟨k, v⟩ := p
    rw [DictDeepWF, ih, List.forall_mem_cons]

theorem DeepWF_of_alookup (a : Dict) (ha : Dict.DeepWF a) (k : String) (v : Cfg)
    (h : alookup k a = some v) : v.DeepWF :=
  (dictDeepWF_iff a).mp ha.2 _ (alookup_mem k v a h)

theorem DeepWF_sub (a : Dict) (ha : Dict.DeepWF a) (k : String) (x : Dict)
    (h : alookup k a = some (.dict x)) : Dict.DeepWF x := by
  have := DeepWF_of_alookup a ha k _ h
  rwa [Cfg.DeepWF] at this

/-- An empty original is neutral. -/
theorem C17_empty_left (b : Dict) (hb : NoDupKeys b) : merge [] b = b :=
  C17_none_left b hb

/-- An empty override is neutral. -/
theorem C17_empty_right (a : Dict) : merge a [] = a :=
  merge_nil a

/-- Applying the same overrides a second time changes nothing. -/
theorem C17_absorb (a b : Dict) (ha : Dict.DeepWF a) (hb : Dict.DeepWF b) :
    merge (merge a b) b = merge a b := by
  induction b using Dict.deep_induction generalizing a with
  | step b ih =>
    have hab := merge_wf a b ha.1
    apply assoc_ext _ (merge_wf _ b hab)
    · -- per key: `mergedValue (mergedValue x y) y = mergedValue x y`, by cases on the override's value `y`
      intro k _
      rw [C17_lookup _ b hb.1, C17_lookup a b hb.1]
      rcases hy : alookup k b with _ | _ | y
      · rw [mergedValue_none_right, mergedValue_none_right]
      · rw [mergedValue_atom_right, mergedValue_atom_right]
      · have hyw := DeepWF_sub b hb k y hy
        have hyy : merge y y = y := by
          -- idempotence of the nested override is absorption into an empty original
          have := ih k y hy [] DeepWF_nil hyw
          rwa [C17_empty_left y hyw.1] at this
        rcases hx : alookup k a with _ | _ | x
        · rw [mergedValue_none_left, mergedValue_dict_dict, hyy]
        · rw [mergedValue_atom_left, mergedValue_dict_dict, hyy]
        · rw [mergedValue_dict_dict, mergedValue_dict_dict, ih k y hy x (DeepWF_sub a ha k x hx) hyw]
    · rw [C17_keys _ b hb.1, List.append_right_eq_self, List.filter_eq_nil_iff]
      intro k hk
      simpa using (C17_mem_keys a b hb.1 k).mpr (Or.inr hk)

/-- Merging a configuration into itself changes nothing, at any depth. -/
theorem C17_idempotent (a : Dict) (ha : Dict.DeepWF a) : merge a a = a := by
  have := C17_absorb [] a DeepWF_nil ha
  rwa [C17_empty_left a ha.1] at this

/-- Where the override is no mapping it wins, whatever the original had. -/
theorem C17_scalar_override_wins (a b : Dict) (hb : NoDupKeys b) (k : String) (x : Atom)
    (h : alookup k b = some (.atom x)) : alookup k (merge a b) = some (.atom x) := by
  rw [C17_lookup a b hb k, h, mergedValue_atom_right]

/-- Where only one side has the key, the value is that side's, untouched. -/
theorem C17_one_sided (a b : Dict) (hb : NoDupKeys b) (k : String) :
    (alookup k b = none → alookup k (merge a b) = alookup k a) ∧
    (alookup k a = none → alookup k (merge a b) = alookup k b) := by
  refine ⟨fun h => ?_, fun h => ?_⟩
  · rw [C17_lookup a b hb k, h, mergedValue_none_right]
  · rw [C17_lookup a b hb k, h, mergedValue_none_left]

/-- The merge of two well-formed dictionaries is well-formed at every depth. -/
theorem C17_deep_wf (a b : Dict) (ha : Dict.DeepWF a) (hb : Dict.DeepWF b) : Dict.DeepWF (merge a b) := by
  induction b using Dict.deep_induction generalizing a with
  | step b ih =>
    have hw := merge_wf a b ha.1
    refine ⟨hw, (dictDeepWF_iff _).mpr ?_⟩
    rintro ⟨k, v⟩ hp
    have hl := alookup_of_mem k v _ hw hp
    rw [C17_lookup a b hb.1] at hl
    rcases hy : alookup k b with _ | _ | y
    · rw [hy, mergedValue_none_right] at hl
      exact DeepWF_of_alookup a ha k v hl
    · rw [hy, mergedValue_atom_right] at hl
      cases hl
      trivial
    · rcases hx : alookup k a with _ | _ | x <;> rw [hx, hy] at hl <;> cases hl
      · exact DeepWF_of_alookup b hb k _ hy
      · exact DeepWF_of_alookup b hb k _ hy
      · rw [Cfg.DeepWF]
        exact ih k y hy x (DeepWF_sub a ha k x hx) (DeepWF_sub b hb k y hy)

/-- Non-vacuity: a nested configuration meets `DeepWF`. -/
example :
    let a : Dict := [("x", .dict [("p", .atom (.other "1")), ("q", .dict [])]), ("y", .atom .none)]
    Dict.DeepWF a ∧ merge a a = a := by
  intro a
  have ha : Dict.DeepWF a := by
    simp [a, Dict.DeepWF, DictDeepWF, Cfg.DeepWF, NoDupKeys, akeys]
  exact ⟨ha, C17_idempotent a ha⟩

end Asphalt
