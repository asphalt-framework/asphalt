/-
C12 — current_context() follows strict per-task stack discipline.
`World.cur` maps every task to the value of its `_current_context` variable; `enter`
stores the previous value in the context's reset token, `exit` restores it.
-/
import AsphaltProofs.Lemmas.World

namespace Asphalt
open K2

/-- The task on whose current-context variable an operation may act. -/
def curTask : Op → Option TaskId
  | .enter t _ => some t
  | .exit t _ _ => some t
  | .exitMid t _ _ _ => some t
  | .spawn _ t' => some t'
  | _ => none

/-- Inside `async with Context()` the current context is that context. -/
theorem C12_enter (w : World) (t : TaskId) (c : CtxId) (x : Ctx)
    (hx : w.ctx? c = some x) (hs : x.state = .inactive) :
    (step w (.enter t c)).1.curOf t = some c ∧
      ((step w (.enter t c)).1.ctx? c).map Ctx.token = some (some (w.curOf t)) := by
  obtain ⟨ch, hch⟩ := step_enter_ctx w t c x hx hs
  refine ⟨?_, ?_⟩
  · rw [step_enter w t c x hx hs]; exact World.curOf_setCur_same _ _ _
  · rw [hch]; rfl

/-- On leaving the block — by any route, teardown raising or not — the current context is again
what the reset token recorded at entry. -/
theorem C12_exit (w : World) (t : TaskId) (c : CtxId) (be : BlockEnd) (x : Ctx)
    (hx : w.ctx? c = some x) (hs : x.state = .opened) :
    (step w (.exit t c be)).1.curOf t = x.token.getD none := by
  exact exitWith_curOf w t c be _ x hx hs

/-- … also when the scope is cancelled while the teardown is running. -/
theorem C12_exit_mid (w : World) (t : TaskId) (c : CtxId) (be : BlockEnd) (k : Nat) (x : Ctx)
    (hx : w.ctx? c = some x) (hs : x.state = .opened) :
    (step w (.exitMid t c be k)).1.curOf t = x.token.getD none := by
  exact exitWith_curOf w t c be _ x hx hs

/-- `current_context()` reports the variable (NoCurrentContext if there is none). -/
theorem C12_current (w : World) (t : TaskId) :
    (step w (.current t)).2 = [match w.curOf t with | some c => .cur (some c) | none => .noCurrent] ∧
      (step w (.current t)).1 = w := by
  dsimp only [step]
  cases w.curOf t <;> exact ⟨rfl, rfl⟩

/-- Tasks do not disturb each other: an operation leaves the current context of every task
other than the one it acts on unchanged. -/
theorem C12_noninterference (w : World) (op : Op) (t : TaskId) (h : curTask op ≠ some t) :
    (step w op).1.curOf t = w.curOf t := by
  rcases step_cur w op with h' | ⟨t', v, h', hop⟩
  · simp only [World.curOf, h']
  · have hne : t' ≠ t := by
      rintro rfl
      rcases hop with ⟨c, rfl⟩ | ⟨c, ⟨be, rfl⟩ | ⟨be, k, rfl⟩⟩ | ⟨t0, rfl⟩ <;> exact h rfl
    simp only [World.curOf, h', alookup_ainsert_other _ _ _ _ hne]

/-- The reset token of a context is written only when that context is entered. -/
theorem C12_token_stable (w : World) (op : Op) (c : CtxId) (x : Ctx) (hx : w.ctx? c = some x)
    (hop : ∀ t, op ≠ .enter t c) (hnew : ∀ t p, op ≠ .new t c p) :
    ((step w op).1.ctx? c).map Ctx.token = some x.token := by
  have _ := hnew   -- not needed: `.new t c p` on a context that exists is refused and changes nothing
  obtain ⟨y, ch, hy, rfl | hown⟩ := step_ctx w op c x hx <;> rw [hy, Option.map_some]
  cases hown with
  | loc hl => exact congrArg some hl.ext.token
  | enter t e => exact absurd e (hop t)
  | leave => exact congrArg some (runTeardown_ext _ _ _ _ _).token

/-- A context stays open until it is left. -/
theorem C12_open_stable (w : World) (op : Op) (c : CtxId) (x : Ctx) (hx : w.ctx? c = some x)
    (hs : x.state = .opened) (hop : ∀ t be, op ≠ .exit t c be)
    (hop' : ∀ t be k, op ≠ .exitMid t c be k) :
    ((step w op).1.ctx? c).map Ctx.state = some .opened := by
  obtain ⟨y, hy, _, hst, _⟩ := step_ctx_lifecycle w op c x hx
    (fun t _ => by rw [hs]; simp) (fun t be e => absurd e (hop t be))
    (fun t be k e => absurd e (hop' t be k))
  rw [hy, Option.map_some, hst, hs]

theorem run_open_stable (c : CtxId) (tok : Option (Option CtxId)) (ops : List Op) :
    ∀ w' : World,
      (∀ op ∈ ops, (∀ t' be', op ≠ .exit t' c be') ∧ (∀ t' be' k, op ≠ .exitMid t' c be' k)) →
      (∃ y, w'.ctx? c = some y ∧ y.state = .opened ∧ y.token = tok) →
      ∃ y, (run w' ops).1.ctx? c = some y ∧ y.state = .opened ∧ y.token = tok := by
  refine fun w' hops => run_keeps (P := fun w => ∃ y, w.ctx? c = some y ∧ y.state = .opened ∧ y.token = tok)
    (fun op ho w ⟨y, hy, hst, htok⟩ => ?_) w'
  obtain ⟨y', hy', _, hst', htok'⟩ := step_ctx_lifecycle w op c y hy
    (fun t' _ => by rw [hst]; simp) (fun t' be' e => absurd e ((hops op ho).1 t' be'))
    (fun t' be' k e => absurd e ((hops op ho).2 t' be' k))
  exact ⟨y', hy', hst'.trans hst, htok'.trans htok⟩

theorem restore_exitWith (w : World) (t : TaskId) (c : CtxId) (x : Ctx) (ops : List Op) (be : BlockEnd)
    (stk : List Cb → List Cb) (hx : w.ctx? c = some x) (hs : x.state = .inactive)
    (hops : ∀ op ∈ ops, (∀ t' be', op ≠ .exit t' c be') ∧ (∀ t' be' k, op ≠ .exitMid t' c be' k)) :
    (exitWith (run (step w (.enter t c)).1 ops).1 t c be stk).1.curOf t = w.curOf t := by
  obtain ⟨ch, hch⟩ := step_enter_ctx w t c x hx hs
  obtain ⟨y, hy, hst, htok⟩ := run_open_stable c (some (w.curOf t)) ops _ hops ⟨_, hch, rfl, rfl⟩
  rw [exitWith_curOf _ t c be stk y hy hst, htok]
  rfl

/-- Restoration over any history: enter `c`, let *other* tasks do anything at all (entering and
leaving their own contexts, failing teardowns, …) except leaving `c` itself, then leave `c`:
the task's current context is what it was before entry. -/
theorem C12_restore (w : World) (t : TaskId) (c : CtxId) (x : Ctx) (ops : List Op) (be : BlockEnd)
    (hx : w.ctx? c = some x) (hs : x.state = .inactive)
    (hops : ∀ op ∈ ops, curTask op ≠ some t ∧ (∀ t' be', op ≠ .exit t' c be') ∧
                         (∀ t' be' k, op ≠ .exitMid t' c be' k) ∧
                         (∀ t', op ≠ .enter t' c) ∧ (∀ t' p, op ≠ .new t' c p)) :
    let w1 := (step w (.enter t c)).1
    let w2 := (run w1 ops).1
    (step w2 (.exit t c be)).1.curOf t = w.curOf t :=
  restore_exitWith w t c x ops be (effStack be) hx hs (fun op ho => ⟨(hops op ho).2.1, (hops op ho).2.2.1⟩)

/-- … also when the scope is cancelled while the teardown of `c` is running. -/
theorem C12_restore_mid (w : World) (t : TaskId) (c : CtxId) (x : Ctx) (ops : List Op) (be : BlockEnd)
    (k : Nat) (hx : w.ctx? c = some x) (hs : x.state = .inactive)
    (hops : ∀ op ∈ ops, curTask op ≠ some t ∧ (∀ t' be', op ≠ .exit t' c be') ∧
                         (∀ t' be' k, op ≠ .exitMid t' c be' k) ∧
                         (∀ t', op ≠ .enter t' c) ∧ (∀ t' p, op ≠ .new t' c p)) :
    let w1 := (step w (.enter t c)).1
    let w2 := (run w1 ops).1
    (step w2 (.exitMid t c be k)).1.curOf t = w.curOf t :=
  restore_exitWith w t c x ops be (midEff be k) hx hs (fun op ho => ⟨(hops op ho).2.1, (hops op ho).2.2.1⟩)

/-- The worlds after the two exits are given by equations, which the property theorems discharge with
`step_exit_exitWith`: left to the unifier, matching `step … (.exit …)` against `exitWith` inside one another by
unfolding is very slow to check. -/
theorem nested_exitWith (w : World) (t : TaskId) (c d : CtxId) (x y : Ctx) (be be' : BlockEnd)
    (stk stk' : List Cb → List Cb)
    (hx : w.ctx? c = some x) (hy : w.ctx? d = some y) (hne : c ≠ d)
    (hs : x.state = .inactive) (hs' : y.state = .inactive) :
    let w1 := (step w (.enter t c)).1
    let w2 := (step w1 (.enter t d)).1
    ∀ w3 w4, w3 = (exitWith w2 t d be stk).1 → w4 = (exitWith w3 t c be' stk').1 →
      w2.curOf t = some d ∧ w3.curOf t = some c ∧ w4.curOf t = w.curOf t := by
  rintro w1 w2 w3 w4 rfl rfl
  -- `c` after each of the first three steps: entered, then untouched by what happens to `d`
  obtain ⟨ch1, hc1⟩ := step_enter_ctx w t c x hx hs
  obtain ⟨y1, hd1, _, hds1, _⟩ := step_ctx_lifecycle w (.enter t c) d y hy
    (fun t' e => by cases e; exact absurd rfl hne) (fun t' be e => by cases e)
    (fun t' be k e => by cases e)
  obtain ⟨ch2, hd2⟩ := step_enter_ctx w1 t d y1 hd1 (hds1.trans hs')
  obtain ⟨x2, hc2, _, hcs2, hct2⟩ := step_ctx_lifecycle w1 (.enter t d) c _ hc1
    (fun t' e => by cases e; exact absurd rfl hne) (fun t' be e => by cases e)
    (fun t' be k e => by cases e)
  obtain ⟨ch3, hc3⟩ := exitWith_ctx?_other w2 t d be stk _ hd2 rfl c x2 hc2 (fun e => hne e.symm)
  have hcur1 : w1.curOf t = some c := (C12_enter w t c x hx hs).1
  refine ⟨(C12_enter w1 t d y1 hd1 (hds1.trans hs')).1, ?_, ?_⟩
  · rw [exitWith_curOf w2 t d be stk _ hd2 rfl]
    exact hcur1
  · rw [exitWith_curOf _ t c be' stk' _ hc3 hcs2, hct2]
    rfl

/-- Nested blocks of one task restore level by level (two levels spelled out). -/
theorem C12_nested (w : World) (t : TaskId) (c d : CtxId) (x y : Ctx) (be be' : BlockEnd)
    (hx : w.ctx? c = some x) (hy : w.ctx? d = some y) (hne : c ≠ d)
    (hs : x.state = .inactive) (hs' : y.state = .inactive) :
    let w1 := (step w (.enter t c)).1
    let w2 := (step w1 (.enter t d)).1
    let w3 := (step w2 (.exit t d be)).1
    let w4 := (step w3 (.exit t c be')).1
    w2.curOf t = some d ∧ w3.curOf t = some c ∧ w4.curOf t = w.curOf t :=
  nested_exitWith w t c d x y be be' _ _ hx hy hne hs hs' _ _
    (congrArg Prod.fst (step_exit_exitWith _ t d be)) (congrArg Prod.fst (step_exit_exitWith _ t c be'))

/-- … also when each of the two teardowns is interrupted by a cancellation. -/
theorem C12_nested_mid (w : World) (t : TaskId) (c d : CtxId) (x y : Ctx) (be be' : BlockEnd)
    (k k' : Nat)
    (hx : w.ctx? c = some x) (hy : w.ctx? d = some y) (hne : c ≠ d)
    (hs : x.state = .inactive) (hs' : y.state = .inactive) :
    let w1 := (step w (.enter t c)).1
    let w2 := (step w1 (.enter t d)).1
    let w3 := (step w2 (.exitMid t d be k)).1
    let w4 := (step w3 (.exitMid t c be' k')).1
    w2.curOf t = some d ∧ w3.curOf t = some c ∧ w4.curOf t = w.curOf t :=
  nested_exitWith w t c d x y be be' _ _ hx hy hne hs hs' _ _
    (congrArg Prod.fst (step_exitMid_exitWith _ t d be k)) (congrArg Prod.fst (step_exitMid_exitWith _ t c be' k'))

/-- A newly created context takes the context current at its creation as its parent. -/
theorem C12_parent_default (w : World) (t : TaskId) (c : CtxId) (hfresh : w.ctx? c = none) :
    ((step w (.new t c none)).1.ctx? c).map Ctx.parent = some (w.curOf t) := by
  dsimp only [step]
  rw [hfresh]
  exact congrArg (Option.map Ctx.parent) (World.ctx?_setCtx_same _ _ _)

/-- A task inherits the context that was current where it was spawned. -/
theorem C12_inherit (w : World) (t t' : TaskId) :
    (step w (.spawn t t')).1.curOf t' = w.curOf t := by
  exact World.curOf_setCur_same _ _ _

/-- Inside a teardown callback `current_context()` is whatever is current for the task that is leaving the
block — the context being torn down itself in disciplined use — and the callback's body cannot change it. -/
theorem C12_current_in_teardown (cid : CtxId) (cur : Option CtxId) (x : Ctx) :
    runBodyOp cid cur x .current = (x, [.cur cur]) := rfl

theorem C12_current_in_teardown_disciplined (w : World) (t : TaskId) (c : CtxId) (x : Ctx) (hx : w.ctx? c = some x)
    (hs : x.state = .opened) (hcur : w.curOf t = some c) (be : BlockEnd) :
    (step w (.exit t c be)).2 = (runTeardown c (some c) be (effStack be x.tds) { x with state := .closing, tds := [] }).2.1 ++ [.closed, exitOutcome be x.parent.isNone x.children (runTeardown c (some c) be (effStack be x.tds) { x with state := .closing, tds := [] }).2.2] := by
  rw [step_exit_exitWith, exitWith_opened w t c be _ x hx hs, hcur]

theorem C12_current_in_teardown_disciplined_mid (w : World) (t : TaskId) (c : CtxId) (x : Ctx) (hx : w.ctx? c = some x)
    (hs : x.state = .opened) (hcur : w.curOf t = some c) (be : BlockEnd) (k : Nat) :
    (step w (.exitMid t c be k)).2 = (runTeardown c (some c) be (midEff be k x.tds) { x with state := .closing, tds := [] }).2.1 ++ [.closed, exitOutcome be x.parent.isNone x.children (runTeardown c (some c) be (midEff be k x.tds) { x with state := .closing, tds := [] }).2.2] := by
  rw [step_exitMid_exitWith, exitWith_opened w t c be _ x hx hs, hcur]

/-- Non-vacuity: two tasks alternating enter/exit on their own stacks. -/
example :
    let ops : List Op := [.new 0 1 none, .enter 0 1, .spawn 0 1, .new 1 2 none, .new 0 3 none,
                          .enter 1 2, .enter 0 3, .exit 1 2 (.raised (.exn 0)), .current 0, .current 1,
                          .exit 0 3 .ret, .current 0]
    let w := (run World.empty ops).1
    (w.curOf 0, w.curOf 1) = (some 1, some 1) := by
  decide +kernel

end Asphalt
