/-
C19 — @inject is equivalent to explicit lookups in the current context.
The model receives the already-resolved dependencies (`Dep`: parameter name, type, resource
name, optional); resolving annotations is Python's and exercised by the correspondence.
-/
import AsphaltProofs.Lemmas.Scope

namespace Asphalt
open K2

theorem depLookup_no_called (cid : CtxId) (isAsync : Bool) (t : TaskId) (x : Ctx) (d : Dep) :
    Out.called ∉ (depLookup cid isAsync t x d).2 := by
  unfold depLookup; split
  · exact (ctxGet_shape cid x t _ _).no_called
  · exact (ctxGetNowait_shape cid x _ _).no_called

theorem resolveDeps_no_called (cid : CtxId) (isAsync : Bool) (t : TaskId) (ds : List Dep) :
    ∀ x, Out.called ∉ (resolveDeps cid isAsync t x ds).2.1 := by
  induction ds with
  | nil => intro x; simp [resolveDeps]
  | cons d ds ih =>
    intro x
    rw [resolveDeps_cons]
    have hl := depLookup_no_called cid isAsync t x d
    have := ih (depLookup cid isAsync t x d).1
    split
    · rename_i h; rw [h] at hl; simp_all
    · simp_all
    · simpa using hl

/-- The explicit lookups an injected call stands for. -/
def lookupOps (c : CtxId) (t : TaskId) (isAsync : Bool) (deps : List Dep) : List Op :=
  deps.map fun d => if isAsync then Op.get t c d.key d.optional else Op.getNowait c d.key d.optional

/-- Running the explicit lookups is the same fold as `resolveDeps`. -/
theorem run_lookupOps (c : CtxId) (t : TaskId) (isAsync : Bool) (deps : List Dep) :
    ∀ (w : World) (x : Ctx), w.ctx? c = some x → (resolveDeps c isAsync t x deps).2.2 = true →
      (run w (lookupOps c t isAsync deps)).1 = w.setCtx c (resolveDeps c isAsync t x deps).1 := by
  induction deps with
  | nil => exact fun w x hx _ => (World.setCtx_self w c x hx).symm
  | cons d ds ih =>
    intro w x hx hok
    have hstep : (step w (if isAsync then Op.get t c d.key d.optional
        else Op.getNowait c d.key d.optional)).1 = w.setCtx c (depLookup c isAsync t x d).1 := by
      cases isAsync <;> exact congrArg Prod.fst (onCtx_some w c _ x hx)
    show (run (step w _).1 (lookupOps c t isAsync ds)).1 = _
    rw [hstep]
    rw [resolveDeps_cons] at hok ⊢
    split at hok
    · rw [ih _ _ (World.ctx?_setCtx_same _ _ _) hok, World.setCtx_setCtx]
    · rw [ih _ _ (World.ctx?_setCtx_same _ _ _) hok, World.setCtx_setCtx]
    · cases hok

theorem step_inject (w : World) (t : TaskId) (c : CtxId) (x : Ctx) (isAsync : Bool) (deps : List Dep)
    (hc : w.curOf t = some c) (hx : w.ctx? c = some x) :
    step w (.inject t isAsync deps false) =
      (w.setCtx c (resolveDeps c isAsync t x deps).1,
       if (resolveDeps c isAsync t x deps).2.2 then (resolveDeps c isAsync t x deps).2.1 ++ [.called]
       else (resolveDeps c isAsync t x deps).2.1.filter fun o => match o with | .arg _ _ => false | _ => true) := by
  dsimp only [step]
  rw [if_neg Bool.false_ne_true, hc]
  dsimp only
  rw [hx]
  rfl

/-- Equivalence on the state: when every dependency resolves, calling the injected function
leaves the world exactly as the explicit lookups (sync API for plain functions, async API
for coroutine functions) in parameter order would — including factories triggered and
events logged. -/
theorem C19_equiv_world (w : World) (t : TaskId) (c : CtxId) (x : Ctx) (isAsync : Bool)
    (deps : List Dep) (hc : w.curOf t = some c) (hx : w.ctx? c = some x)
    (hok : (resolveDeps c isAsync t x deps).2.2 = true) :
    (step w (.inject t isAsync deps false)).1 = (run w (lookupOps c t isAsync deps)).1 := by
  rw [step_inject w t c x isAsync deps hc hx, run_lookupOps c t isAsync deps w x hx hok]

/-- The function body runs exactly when every dependency resolved. -/
theorem C19_called_iff (w : World) (t : TaskId) (c : CtxId) (x : Ctx) (isAsync : Bool)
    (deps : List Dep) (hc : w.curOf t = some c) (hx : w.ctx? c = some x) :
    (∃ pre, (step w (.inject t isAsync deps false)).2 = pre ++ [.called]) ↔
      (resolveDeps c isAsync t x deps).2.2 = true := by
  rw [step_inject w t c x isAsync deps hc hx]
  cases hok : (resolveDeps c isAsync t x deps).2.2 with
  | true => exact ⟨fun _ => rfl, fun _ => ⟨_, rfl⟩⟩
  | false =>
    -- what is left of the outputs of the lookups does not end in `called`
    refine ⟨fun ⟨pre, hpre⟩ => ?_, fun h => nomatch h⟩
    have hmem : Out.called ∈ pre ++ [Out.called] := List.mem_append_right _ List.mem_cons_self
    rw [← hpre] at hmem
    exact absurd (List.mem_filter.mp hmem).1 (resolveDeps_no_called c isAsync t deps x)

/-- What a parameter receives is what the lookup returns: first dependency spelled out for the
sync API … -/
theorem C19_binds_lookup_result (cid : CtxId) (t : TaskId) (x : Ctx) (d : Dep) (ds : List Dep)
    (v : Val) (evs : List Out) (h : (ctxGetNowait cid x d.key d.optional).2 = .val v :: evs) :
    (resolveDeps cid false t x (d :: ds)).2.1.head? = some (.arg d.param (some v)) := by
  rw [resolveDeps_cons]
  simp only [depLookup, Bool.false_eq_true, if_false, h]
  rfl

theorem depLookup_miss (cid : CtxId) (isAsync : Bool) (t : TaskId) (x : Ctx) (d : Dep)
    (hs : x.state.usable = true) (hr : alookup d.key x.res = none) (hf : alookup d.key x.fac = none) :
    depLookup cid isAsync t x d = (x, [if d.optional then .none else .notFound]) := by
  unfold depLookup
  rw [(lookup_miss cid x d.key d.optional hs hr hf).1, (lookup_miss cid x d.key d.optional hs hr hf).2 t]
  exact ite_self _

/-- … an `Optional[T]` / `T | None` parameter receives None when nothing matches, and the call
goes on … -/
theorem C19_optional_none (cid : CtxId) (t : TaskId) (x : Ctx) (d : Dep) (ds : List Dep)
    (isAsync : Bool) (hs : x.state.usable = true) (hopt : d.optional = true)
    (hr : alookup d.key x.res = none) (hf : alookup d.key x.fac = none) :
    resolveDeps cid isAsync t x (d :: ds) =
      ((resolveDeps cid isAsync t x ds).1, .arg d.param none :: (resolveDeps cid isAsync t x ds).2.1,
       (resolveDeps cid isAsync t x ds).2.2) := by
  rw [resolveDeps_cons, depLookup_miss cid isAsync t x d hs hr hf, hopt]
  rfl

/-- … whereas a missing non-optional resource raises ResourceNotFound before the body runs. -/
theorem C19_missing (cid : CtxId) (t : TaskId) (x : Ctx) (d : Dep) (ds : List Dep)
    (isAsync : Bool) (hs : x.state.usable = true) (hopt : d.optional = false)
    (hr : alookup d.key x.res = none) (hf : alookup d.key x.fac = none) :
    resolveDeps cid isAsync t x (d :: ds) = (x, [.notFound], false) := by
  rw [resolveDeps_cons, depLookup_miss cid isAsync t x d hs hr hf, hopt]
  rfl

/-- Without a current context the call fails with NoCurrentContext and changes nothing. -/
theorem C19_no_current (w : World) (t : TaskId) (isAsync : Bool) (deps : List Dep)
    (hc : w.curOf t = none) :
    step w (.inject t isAsync deps false) = (w, [.noCurrent]) := by
  dsimp only [step]
  rw [if_neg Bool.false_ne_true, hc]

theorem decorate_none_of_mem {ps : List Param} {p : Param} (hp : p ∈ ps)
    (hbad : ∀ qs, decorate (p :: qs) = none) : decorate ps = none := by
  induction ps with
  | nil => cases hp
  | cons q ps ih =>
    rcases List.mem_cons.mp hp with rfl | hp'
    · exact hbad ps
    · -- the rest is rejected, so whatever `q` is nothing is returned
      unfold decorate
      rw [ih hp']
      cases q.dflt with
      | marker n =>
        dsimp only
        split
        · rfl
        · split <;> rfl
      | _ => rfl

/-- Decoration-time rejection: a marker on a positional-only parameter … -/
theorem C19_reject_posonly (ps : List Param) (p : Param) (n : String) (hp : p ∈ ps)
    (hm : p.dflt = .marker n) (hk : p.kind = .posOnly) : decorate ps = none :=
  decorate_none_of_mem hp (fun qs => by simp [decorate, hm, hk])

/-- … on an unannotated parameter … -/
theorem C19_reject_unannotated (ps : List Param) (p : Param) (n : String) (hp : p ∈ ps)
    (hm : p.dflt = .marker n) (ha : p.annotated = false) : decorate ps = none :=
  decorate_none_of_mem hp (fun qs => by simp [decorate, hm, ha])

/-- … or `resource` without the parentheses. -/
theorem C19_reject_uncalled (ps : List Param) (p : Param) (hp : p ∈ ps)
    (hm : p.dflt = .uncalled) : decorate ps = none :=
  decorate_none_of_mem hp (fun qs => by simp [decorate, hm])

/-- Otherwise the decorator accepts, and injects exactly the marked parameters in signature order. -/
theorem C19_accept (ps : List Param)
    (h : ∀ p ∈ ps, p.dflt ≠ .uncalled ∧ ∀ n, p.dflt = .marker n → p.kind ≠ .posOnly ∧ p.annotated = true) :
    decorate ps = some ((ps.filter fun p => match p.dflt with | .marker _ => true | _ => false).map Param.name) := by
  induction ps with
  | nil => simp [decorate]
  | cons q ps ih =>
    have ih' := ih (fun p hp => h p (List.mem_cons_of_mem _ hp))
    have hq := h q List.mem_cons_self
    unfold decorate
    cases hd : q.dflt with
    | marker n =>
      have := hq.2 n hd
      simp [hd, this.1, this.2, ih']
    | uncalled => exact absurd hd hq.1
    | noDefault => simp [hd, ih']
    | value => simp [hd, ih']

/-- Non-vacuity: one ordinary, one keyword-only and two injected parameters (one optional and
missing). -/
example :
    let a1 : AddArgs := ⟨[0], 0, "default", some 1, none, false, none, false⟩
    let deps : List Dep := [⟨"r0", ⟨0, "default"⟩, false⟩, ⟨"r1", ⟨1, "x"⟩, true⟩]
    let ops : List Op := [.new 0 1 none, .enter 0 1, .add 1 a1, .inject 0 false deps false]
    ((run World.empty ops).2.getLast?.map fun o => o.length) = some 3 := by
  decide +kernel

end Asphalt
