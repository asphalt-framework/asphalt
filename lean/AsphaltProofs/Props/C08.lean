/-
C08 — service tasks are stopped at teardown before anything they may depend on.
Over the service-task LTS (AsphaltModel/Tasks.lean). `TSt.init prog` is the state after the
set-up program `prog` (registrations of teardown callbacks and resources, starts of service
tasks, in order); runs (`TExec`) range over every interleaving of task progress with the
owner's teardown. The hypothesis that no task crashed (`crashed = []`) is explicit: a crash cancels
the teardown itself, which the property excludes.
-/
import AsphaltProofs.Lemmas.Tasks

namespace Asphalt

open Tk

def TReach (prog : List Setup) (s : TSt) : Prop := ∃ ls, TExec (TSt.init prog) ls s

def RegisteredBefore (prog : List Setup) (id tid : Nat) : Prop :=
  ∃ pre r mid sp post, prog = pre ++ [.reg id r] ++ mid ++ [.start sp] ++ post ∧ sp.tid = tid

/-- Task ids (of started and of late tasks together) and callback ids are pairwise distinct, and each callback
starts at most one late task. -/
def DistinctIds (prog : List Setup) : Prop :=
  (prog.filterMap fun s => match s with
    | .start sp => some sp.tid | .late _ sp => some sp.tid | _ => none).Nodup ∧
  (prog.filterMap fun s => match s with | .reg id _ => some id | _ => none).Nodup ∧
  (prog.filterMap fun s => match s with | .late cb _ => some cb | _ => none).Nodup

/-- Teardown does not proceed to a callback registered before a task was started until that
task and its context have completely finished. -/
theorem C08_before_earlier (prog : List Setup) (hd : DistinctIds prog) (s s' : TSt) (h : TReach prog s)
    (hc : s.crashed = []) (id tid : Nat) (hb : RegisteredBefore prog id tid)
    (hstep : tstep? s (.cbRun id) = some s') :
    ∃ e, s.statusOf tid = some (.closed e) := by
  -- the initial stack splits around `cb id` where the run found it and where the set-up program put it, above the
  -- finalizer of `tid`. Without duplicates the two splits are one: the finalizer is among what was popped, not in
  -- `rest`, and `cbRun_closed` says the task is closed
  obtain ⟨ls, hex⟩ := h
  have hnd := init_stack_nodup prog hd.1 hd.2.1
  obtain ⟨popped, r', rest, hpop, hcl⟩ := cbRun_closed prog hd.1 hd.2.1 ls s s' hex hc id hstep
  obtain ⟨pre, r, mid, sp, post, hprog, htid⟩ := hb
  have hI : (TSt.init prog).stack =
      ((TSt.init post).stack ++ Item.fin tid :: (TSt.init mid).stack) ++
        Item.cb id r :: (TSt.init pre).stack := by
    rw [hprog, init_stack_append, init_stack_append, init_stack_append, init_stack_append,
      init_stack_reg, init_stack_start, htid]
    simp only [List.append_assoc, List.cons_append, List.nil_append]
  have hr : r' = r :=
    init_stack_cb_unique prog hd.2.1 id r' r (hpop ▸ List.mem_append_right _ List.mem_cons_self)
      (hI ▸ List.mem_append_right _ List.mem_cons_self)
  subst hr
  -- (the lemma is about distinct keys; here every item is its own key)
  have hsplit : popped = _ :=
    prefix_unique_of_filterMap_nodup (f := some) (List.filterMap_some ▸ hpop ▸ hnd) (hpop.trans hI) rfl rfl
  have hsp : Setup.start sp ∈ prog :=
    hprog ▸ List.mem_append_left _ (List.mem_append_right _ List.mem_cons_self)
  refine hcl tid (htid ▸ reach_started prog ls s hex hc sp hsp) (fun hmem => ?_)
  have hp : Item.fin tid ∈ popped := hsplit ▸ List.mem_append_right _ List.mem_cons_self
  exact (List.nodup_append.mp (hpop ▸ hnd)).2.2 _ hp _ (List.mem_cons_of_mem _ hmem) rfl

/-- No service task is still running once the block of its owning context has been left. -/
theorem C08_none_left (prog : List Setup) (hd : DistinctIds prog) (s s' : TSt) (h : TReach prog s)
    (hc : s.crashed = []) (hstep : tstep? s .blockLeft = some s') (sp : TaskSpec)
    (hsp : Setup.start sp ∈ prog) : ∃ e, s.statusOf sp.tid = some (.closed e) := by
  have _ := hd   -- not needed: `Tk.Inv` asks for no distinctness
  obtain ⟨ls, hex⟩ := h
  exact (blockLeft_closed prog ls s s' hex hc hstep _ (reach_started prog ls s hex hc sp hsp)).1

/-- A task observes cancellation at teardown only if its teardown action is "cancel" or a callable
that raised. -/
theorem C08_cancel_only_when_told (prog : List Setup) (hd : DistinctIds prog) (s s' : TSt)
    (h : TReach prog s) (hc : s.crashed = []) (tid : Nat) (hstep : tstep? s (.cancelSeen tid) = some s') :
    ∃ sp, s.spec? tid = some sp ∧ (sp.action = .cancel ∨ sp.action = .callable true) := by
  have _ := hd   -- not needed: `Tk.Inv` asks for no distinctness
  obtain ⟨ls, hex⟩ := h
  have hinv := reach_inv prog ls s hex hc
  obtain ⟨s1, n, hcore, _⟩ := tstep_core _ _ _ hstep hc
  cases hcore with
  | cancelSeen _ sp c hsp hst => exact hinv.asked tid hst

/-- The teardown callable is invoked at most once per task, and only for tasks that have one. -/
theorem C08_action_once (prog : List Setup) (s : TSt) (h : TReach prog s) (hc : s.crashed = []) (tid : Nat) :
    s.hist.count (.actionCalled tid) ≤ 1 ∧
      (TLab.actionCalled tid ∈ s.hist → ∃ sp r, s.spec? tid = some sp ∧ sp.action = .callable r) := by
  obtain ⟨ls, hex⟩ := h
  have hinv := reach_inv prog ls s hex hc
  exact ⟨hinv.called.count tid, fun hm => (hinv.called.called_acted tid hm).2⟩

/-- … and by the time the block is left it has been invoked for every task that has one. -/
theorem C08_action_called (prog : List Setup) (hd : DistinctIds prog) (s s' : TSt) (h : TReach prog s)
    (hc : s.crashed = []) (hstep : tstep? s .blockLeft = some s') (sp : TaskSpec) (r : Bool)
    (hsp : Setup.start sp ∈ prog) (ha : sp.action = .callable r) : TLab.actionCalled sp.tid ∈ s.hist := by
  obtain ⟨ls, hex⟩ := h
  have hinv := reach_inv prog ls s hex hc
  have hfr := reach_frame prog ls s hex hc
  have hact := (blockLeft_closed prog ls s s' hex hc hstep _ (reach_started prog ls s hex hc sp hsp)).2
  have hspec : s.spec? sp.tid = some sp := by
    have := init_spec prog hd.1 sp hsp
    unfold TSt.spec? at this ⊢
    rw [hfr.1]; exact this
  exact hinv.called.acted_called sp.tid sp r hact hspec ha

/-- A service task's context snapshots the resources present in the owner when it was started. -/
theorem C08_snapshot (prog : List Setup) (s s' : TSt) (h : TReach prog s) (tid : Nat) (vals : List Nat)
    (hc : s.crashed = []) (hstep : tstep? s (.taskSaw tid vals) = some s') :
    alookup tid (snapshots prog []) = some vals := by
  obtain ⟨ls, hex⟩ := h
  have hfr := reach_frame prog ls s hex hc
  obtain ⟨s1, n, hcore, _⟩ := tstep_core _ _ _ hstep hc
  cases hcore with
  | taskSaw _ _ hv => rw [← hfr.2]; exact hv

/-- An exception escaping a service task takes the application down instead of vanishing: it is
among the exceptions the caller sees. -/
theorem C08_crash_surfaces (s s' : TSt) (leaves : List Nat) (hstep : tstep? s (.outcome leaves) = some s')
    (e : Nat) (he : e ∈ s.crashed) : e ∈ leaves := by
  have hne : s.crashed ≠ [] := by intro h0; rw [h0] at he; simp at he
  have hall := (tstep_crashed s s' _ hne hstep).2 leaves rfl
  rw [List.all_eq_true] at hall
  simpa using hall e he

/-- Every way a task can end with an exception — by itself, or from its clean-up while it is being
cancelled at teardown — records that exception as escaped (and `C08_crash_surfaces` then hands it
to the caller). -/
theorem C08_exception_recorded (s s' : TSt) (tid e : Nat) (hc : s.crashed = [])
    (hstep : tstep? s (.taskEnded tid (some e)) = some s') : e ∈ s'.crashed := by
  obtain ⟨s1, n, hcore, rfl⟩ := tstep_core s s' _ hstep hc
  rw [normalize_crashed n s1]
  cases hcore with
  | taskEndedExc => simp

/-- Without a crash the caller sees exactly the exceptions raised by the teardown callbacks. -/
theorem C08_outcome_exact (s s' : TSt) (leaves : List Nat) (hc : s.crashed = [])
    (hstep : tstep? s (.outcome leaves) = some s') : leaves = s.excs ∧ s.left = true := by
  obtain ⟨s1, n, hcore, _⟩ := tstep_core _ _ _ hstep hc
  cases hcore with
  | outcome _ hl hv => exact ⟨hv, hl⟩

/-- The owner's callbacks run in reverse order of registration (C01), finalizers included: the
stack is only ever popped from the top.

`DistinctIds` is needed: with two service tasks of the same id, popping the finalizer of the first also
removes the finalizer of the second from the middle of the stack (`stack_suffix_counterexample`).

A teardown callback that starts a service task (`Setup.late`) pushes that task's finalizer: hence `lateFins`. -/
theorem C08_stack_suffix (prog : List Setup) (hd : DistinctIds prog) (s : TSt) (h : TReach prog s)
    (hc : s.crashed = []) :
    ∃ popped lateFins rest, popped ++ rest = (TSt.init prog).stack ∧ s.stack = lateFins ++ rest ∧
      lateFins.length ≤ 1 ∧
      ∀ i, i ∈ lateFins → ∃ cb sp, Setup.late cb sp ∈ prog ∧ i = .fin sp.tid ∧
        TLab.cbRun cb ∈ s.hist := by
  obtain ⟨ls, hex⟩ := h
  obtain ⟨p, rest, hp, hs | ⟨cb, tid, hL, hran, hs⟩⟩ := (reach_inv2 prog hd.1 hd.2.1 ls s hex hc).suffix
  · exact ⟨p, [], rest, hp, hs, Nat.zero_le 1, fun i hi => nomatch hi⟩
  · obtain ⟨sp, hsp, rfl⟩ := (mem_init_lates prog cb tid).mp hL
    refine ⟨p, [.fin sp.tid], rest, hp, hs, Nat.le_refl 1, fun i hi => ?_⟩
    cases List.mem_singleton.mp hi
    exact ⟨cb, sp, hsp, rfl, hran⟩

/-- `C08_stack_suffix` for set-up programs in which no teardown callback starts a service task. -/
theorem C08_stack_suffix_no_late (prog : List Setup) (hd : DistinctIds prog)
    (hnl : ∀ cb sp, Setup.late cb sp ∉ prog) (s : TSt) (h : TReach prog s) (hc : s.crashed = []) :
    ∃ popped, popped ++ s.stack = (TSt.init prog).stack := by
  obtain ⟨popped, lateFins, rest, hp, hs, _, hlf⟩ := C08_stack_suffix prog hd s h hc
  cases lateFins with
  | nil => exact ⟨popped, by rw [hs]; exact hp⟩
  | cons i _ =>
    obtain ⟨cb, sp, hl, _⟩ := hlf i List.mem_cons_self
    exact absurd hl (hnl cb sp)

/-- `C08_stack_suffix_no_late` fails without `DistinctIds`: here the stack goes from `[fin 1, cb 5, fin 1]` to
`[cb 5]`. -/
theorem stack_suffix_counterexample :
    ¬ ∀ (prog : List Setup) (s : TSt), TReach prog s → s.crashed = [] →
      ∃ popped, popped ++ s.stack = (TSt.init prog).stack := by
  intro hall
  let prog : List Setup := [.start ⟨1, .none_, .endsAfter 0 none⟩, .reg 5 none,
    .start ⟨1, .none_, .endsAfter 0 none⟩]
  let tr : List TLab := [.exitBegin, .taskEnded 1 none, .taskClosed 1]
  have hrun : (match taccept (TSt.init prog) tr 0 with
      | .ok s => decide (s.stack = [Item.cb 5 none] ∧ s.crashed = [])
      | .error _ => false) = true := by decide
  cases hacc : taccept (TSt.init prog) tr 0 with
  | error p => rw [hacc] at hrun; exact absurd hrun (by simp)
  | ok s =>
    have hst : s.stack = [Item.cb 5 none] ∧ s.crashed = [] := by
      rw [hacc] at hrun
      simpa using hrun
    obtain ⟨popped, hp⟩ := hall prog s ⟨tr, taccept_exec tr _ s 0 hacc⟩ hst.2
    rw [hst.1] at hp
    have hI : (TSt.init prog).stack = [Item.fin 1, Item.cb 5 none, Item.fin 1] := by decide
    rw [hI] at hp
    have hlast := congrArg List.getLast? hp
    simp at hlast

/-- Non-vacuity: stack [cb 1, task t (callable that raises, needs two clean-up ticks), cb 2]. -/
example :
    let prog : List Setup := [.reg 1 none, .start ⟨7, .callable true, .untilStopped 2⟩, .reg 2 none]
    let tr : List TLab := [.taskSaw 7 [], .exitBegin, .cbRun 2, .actionCalled 7, .cancelSeen 7, .cleanupTick 7,
      .cleanupTick 7, .taskEnded 7 none, .taskClosed 7, .cbRun 1, .blockLeft, .outcome []]
    (match taccept (TSt.init prog) tr 0 with
     | .ok s => s.reported
     | .error _ => false) = true ∧
    (match taccept (TSt.init prog) [.taskSaw 7 [], .exitBegin, .cbRun 2, .actionCalled 7, .cbRun 1] 0 with
     | .ok _ => false
     | .error p => p.1 == 4) = true := by
  decide

/-- Non-vacuity for a task whose clean-up raises while it is being cancelled at teardown: the
exception reaches the caller; an outcome without it is rejected. -/
example :
    let prog : List Setup := [.reg 1 none, .start ⟨7, .cancel, .failsWhenCancelled 1 3⟩]
    (match taccept (TSt.init prog) [.taskSaw 7 [], .exitBegin, .cancelSeen 7, .cleanupTick 7, .taskEnded 7 (some 3),
        .taskClosed 7, .cbRun 1, .blockLeft, .outcome [3]] 0 with
     | .ok s => s.reported
     | .error _ => false) = true ∧
    (match taccept (TSt.init prog) [.taskSaw 7 [], .exitBegin, .cancelSeen 7, .cleanupTick 7, .taskEnded 7 (some 3),
        .taskClosed 7, .cbRun 1, .blockLeft, .outcome []] 0 with
     | .ok _ => false
     | .error p => p.1 == 8) = true := by
  decide

end Asphalt
