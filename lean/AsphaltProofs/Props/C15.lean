/-
C15 — run_application: every ending tears down the root context and exits as documented.
`exitOf` is the decision table of `_run_application_async` + `sys.exit`; the teardown is the
kernel's (`runApp` runs the root context's life through `step`), so the C01 theorems apply.
-/
import AsphaltProofs.Lemmas.Runner
import AsphaltProofs.Props.C01

namespace Asphalt

open Rn

theorem startsOf_closed_outcome (be : BlockEnd) (r : Bool) (ch : List CtxId) (excs : List Exc) :
    startsOf [.closed, exitOutcome be r ch excs] = [] := by
  fun_cases exitOutcome be r ch excs <;> rfl

theorem endsOf_closed_outcome (be : BlockEnd) (r : Bool) (ch : List CtxId) (excs : List Exc) :
    endsOf [.closed, exitOutcome be r ch excs] = [] := by
  fun_cases exitOutcome be r ch excs <;> rfl

theorem runOrder_lateCbs (l : List (Nat × Bool)) (stack : List Cb) :
    runOrder (l.map lateCb ++ stack) = l.map lateCb ++ runOrder stack := by
  induction l with
  | nil => rfl
  | cons q l ih =>
    rw [List.map_cons, List.cons_append, lateCb, runOrder_cons, List.reverse_nil, List.nil_append, ih]
    rfl

theorem runOrder_regCbs (l : List RegSpec) :
    runOrder (l.map regCb) = l.flatMap fun r => regCb r :: (r.late.map lateCb).reverse := by
  induction l with
  | nil => exact runOrder_nil
  | cons r l ih =>
    rw [List.map_cons, List.flatMap_cons, regCb, runOrder_cons, ← List.map_reverse,
      runOrder_lateCbs, ih, List.map_reverse]
    rfl

theorem runOrder_regs (regs : List RegSpec) :
    runOrder (regs.map regCb).reverse = expectedCbs regs := by
  rw [← List.map_reverse, runOrder_regCbs]
  rfl

/-- Status 0 — run() returning None or 0, or a termination signal after start-up of a non-CLI
application — is a plain return. -/
theorem C15_exit_zero :
    exitOf (.cliReturn .none_) = .returned ∧ exitOf (.cliReturn (.int 0)) = .returned ∧
      exitOf .signalAfterStartup = .returned :=
  ⟨rfl, rfl, rfl⟩

/-- A CLI result n in 1..127 is SystemExit(n). -/
theorem C15_exit_code (n : Int) (h1 : 1 ≤ n) (h2 : n ≤ 127) :
    exitOf (.cliReturn (.int n)) = .systemExit n.toNat := by
  rw [exitOf, exitOfRunRes, if_neg (by omega), if_pos ⟨by omega, h2⟩]

/-- An out-of-range or non-int run() result is SystemExit(1). -/
theorem C15_exit_invalid (n : Int) (h : n < 0 ∨ 127 < n) :
    exitOf (.cliReturn (.int n)) = .systemExit 1 ∧ exitOf (.cliReturn .other) = .systemExit 1 := by
  refine ⟨?_, rfl⟩
  rw [exitOf, exitOfRunRes, if_neg (by omega), if_neg (by omega)]

/-- Start-up failure, start-up time-out and a signal during start-up are SystemExit(1). -/
theorem C15_exit_startup :
    exitOf .startupFail = .systemExit 1 ∧ exitOf .startupTimeout = .systemExit 1 ∧
      exitOf .signalDuringStartup = .systemExit 1 :=
  ⟨rfl, rfl, rfl⟩

/-- A crash after start-up propagates the original exception. -/
theorem C15_exit_crash (e : Nat) :
    exitOf (.cliRaise e) = .propagated e ∧ exitOf (.crashAfterStartup e) = .propagated e :=
  ⟨rfl, rfl⟩

/-- However the application ends, every teardown callback registered on the root context —
before or during the teardown — runs, in reverse order of registration (`expectedOrder`), each
receiving the block's exception iff it asked for it. -/
theorem C15_teardown (c : RunCase) :
    startsOf (runApp c).1 =
      (expectedOrder c.regs).map fun r => (r.1, if r.2 then some (blockEndOf c.ending).exc else none) := by
  obtain ⟨x, excs, h⟩ := runApp_trace c
  rw [h, startsOf_append, startsOf_closed_outcome, List.append_nil, C01_lifo_and_argument,
    runOrder_regs, ← expectedCbs_key, List.map_map]
  rfl

/-- Exactly once each. -/
theorem C15_teardown_once (c : RunCase) :
    ((startsOf (runApp c).1).map Prod.fst).Perm
      (c.regs.flatMap fun r => r.id :: r.late.map Prod.fst) := by
  rw [C15_teardown, List.map_map]
  exact expectedOrder_ids_perm c.regs

/-- Every one of them runs to completion, and the root context reports itself closed, before
the exit is produced. -/
theorem C15_teardown_complete (c : RunCase) :
    endsOf (runApp c).1 = (expectedOrder c.regs).map (fun r => (r.1, none)) ∧ Out.closed ∈ (runApp c).1 := by
  obtain ⟨x, excs, h⟩ := runApp_trace c
  rw [h]
  refine ⟨?_, List.mem_append_right _ List.mem_cons_self⟩
  rw [endsOf_append, endsOf_closed_outcome, List.append_nil, C01_all_finish,
    runOrder_regs, ← expectedCbs_key, List.map_map]
  apply List.map_congr_left
  intro cb hcb
  rw [expectedCbs_raises c.regs cb hcb]
  rfl

/-- The exit is the documented one, whatever was registered. -/
theorem C15_exit_independent (c : RunCase) : (runApp c).2 = exitOf c.ending := by
  rfl

/-- Non-vacuity: three callbacks, the second registering two more while it runs, run() raising. -/
example :
    let c : RunCase := ⟨[⟨1, true, []⟩, ⟨2, false, [(21, true), (22, false)]⟩, ⟨3, true, []⟩], .cliRaise 4⟩
    startsOf (runApp c).1 =
        [(3, some (some (.exn 4))), (2, none), (22, none), (21, some (some (.exn 4))), (1, some (some (.exn 4)))] ∧
      (runApp c).2 = .propagated 4 := by
  intro c
  refine ⟨?_, rfl⟩
  rw [C15_teardown]
  rfl

end Asphalt
