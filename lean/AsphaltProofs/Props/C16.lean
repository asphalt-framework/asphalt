/-
C16 — `asphalt run`: documented configuration precedence and deterministic service selection.
Model: `cliConfig` and its stages, `splitKey` and `setPath` in `AsphaltModel/Config.lean`.
-/
import AsphaltProofs.Lemmas.Config
import AsphaltProofs.Props.C17

namespace Asphalt

/-! ### The service-selection ladder, as a decision table -/

theorem C16_no_services (s : Option String) : selectService [] s = .error .noServices := by
  rfl

theorem C16_named (services : Dict) (n : String) (h : services ≠ []) :
    selectService services (some n) =
      match alookup n services with
      | some c => .ok c
      | none => .error .serviceNotFound := by
  cases services with
  | nil => exact absurd rfl h
  | cons p l => rfl

theorem C16_only (n : String) (c : Cfg) : selectService [(n, c)] none = .ok c := by
  rfl

theorem C16_default (services : Dict) (h : 2 ≤ services.length) :
    selectService services none =
      match alookup "default" services with
      | some c => .ok c
      | none => .error .ambiguous := by
  match services, h with
  | _ :: _ :: _, _ => rfl

/-- `--service` beats `ASPHALT_SERVICE`. -/
theorem C16_option_over_env (o : String) (e : Option String) (h : o ≠ "") :
    serviceName (some o) e = some o := by
  simp only [serviceName, truthyName_some o h, Option.orElse_some]

/-- Without (or with an empty) `--service` the environment variable decides. -/
theorem C16_env_fallback (e : Option String) :
    serviceName none e = truthyName e ∧ serviceName (some "") e = truthyName e := by
  constructor <;> rfl

/-! ### Precedence: later file > earlier file, `--set` > files, service section > top level -/

/-- Folding the files: the value of a key is the fold of the per-key merge rule. -/
theorem C16_files_lookup (files : List Dict) (acc : Dict) (hf : ∀ f ∈ files, NoDupKeys f)
    (k : String) :
    alookup k (files.foldl merge acc) =
      files.foldl (fun o f => mergedValue o (alookup k f)) (alookup k acc) := by
  induction files generalizing acc with
  | nil => rfl
  | cons f fs ih =>
    rw [List.foldl_cons, List.foldl_cons, ih _ (fun g hg => hf g (List.mem_cons_of_mem _ hg)),
      C17_lookup _ _ (hf f List.mem_cons_self)]

/-- A non-dictionary value in the last file wins over everything before it. -/
theorem C16_later_file_wins (files : List Dict) (last : Dict)
    (hf : ∀ f ∈ files, NoDupKeys f) (hl : NoDupKeys last) (k : String) (a : Atom)
    (h : alookup k last = some (.atom a)) :
    alookup k ((files ++ [last]).foldl merge []) = some (.atom a) := by
  have _ := hf   -- not needed: only the last merge is looked at
  rw [List.foldl_append, List.foldl_cons, List.foldl_nil, C17_lookup _ _ hl, h,
    mergedValue_atom_right]

/-- A key absent from the last file keeps what the earlier files gave it. -/
theorem C16_later_file_absent (files : List Dict) (last : Dict)
    (hf : ∀ f ∈ files, NoDupKeys f) (hl : NoDupKeys last) (k : String)
    (h : alookup k last = none) :
    alookup k ((files ++ [last]).foldl merge []) = alookup k (files.foldl merge []) := by
  have _ := hf   -- not needed, as above
  rw [List.foldl_append, List.foldl_cons, List.foldl_nil, C17_lookup _ _ hl, h,
    mergedValue_none_right]

/-- After a successful `--set path=v` the path holds `v` (whatever the files said). -/
theorem C16_set_get (ks : List String) (v : Cfg) (d d' : Dict) (hks : ks ≠ [])
    (h : setPath ks v d = .ok d') : getPath ks (.dict d') = some v := by
  obtain ⟨k, ks, rfl⟩ := List.exists_cons_of_ne_nil hks
  obtain ⟨c, rfl, hc⟩ := setPath_cons_ok k ks v d d' h
  rw [getPath, alookup_ainsert_same]
  exact hc

/-- `--set` touches only the top-level key its path starts with. -/
theorem C16_set_frame (ks : List String) (v : Cfg) (d d' : Dict)
    (h : setPath ks v d = .ok d') (k : String) (hk : ks.head? ≠ some k) :
    alookup k d' = alookup k d := by
  cases ks with
  | nil =>
    rw [setPath] at h
    cases h
    rfl
  | cons k1 ks =>
    obtain ⟨c, rfl, _⟩ := setPath_cons_ok k1 ks v d d' h
    exact alookup_ainsert_other _ _ _ _ fun e => hk (congrArg some e)

/-- `--set` fails when it has to descend into a non-mapping; stated one level deep: the first key holds an
atom and the path goes on. -/
theorem C16_set_not_mapping (k k2 : String) (ks : List String) (v : Cfg) (d : Dict) (a : Atom)
    (h : alookup k d = some (.atom a)) :
    setPath (k :: k2 :: ks) v d = .error .notMapping := by
  rw [setPath, h]

/-- The selected service's section is merged over the top-level keys. -/
theorem C16_service_lookup (config svc final : Dict) (hs : NoDupKeys svc)
    (h : finalConfig config (.dict svc) = .ok final) (k : String) :
    alookup k final = mergedValue (alookup k config) (alookup k svc) := by
  cases h
  exact C17_lookup _ _ hs k

/-- A top-level `component` without a `services` section becomes the only service,
`default`. -/
theorem C16_component_is_default_service (config : Dict) (comp : Cfg)
    (hs : alookup "services" config = none)
    (hc : alookup "component" (aerase "services" config) = some comp) :
    splitServices config =
      .ok (aerase "component" (aerase "services" config),
           [("default", .dict [("component", comp)])]) := by
  unfold splitServices
  rw [hs]
  simp only [bind, Except.bind, pure, Except.pure, hc]
  rfl

/-- The whole command is the composition of the five stages; in particular an error in any
stage yields no `RunArgs` (nothing is started). -/
theorem C16_pipeline (files : List Dict) (sets : List (String × Option Cfg))
    (o e : Option String) (r : RunArgs) (h : cliConfig files sets o e = .ok r) :
    ∃ cfg top services svc final,
      loadConfig files sets = .ok cfg ∧ splitServices cfg = .ok (top, services) ∧
      selectService services (serviceName o e) = .ok svc ∧ finalConfig top svc = .ok final ∧
      extractRunArgs final = .ok r := by
  unfold cliConfig at h
  simp only [Except.bind_eq_ok] at h
  obtain ⟨cfg, h1, ⟨top, services⟩, h2, svc, h3, final, h4, h5⟩ := h
  exact ⟨cfg, top, services, svc, final, h1, h2, h3, h4, h5⟩

theorem C16_error_starts_nothing (files : List Dict) (sets : List (String × Option Cfg))
    (o e : Option String) (err : CliErr) (h : cliConfig files sets o e = .error err) :
    (cliConfig files sets o e).toOption = none := by
  rw [h]; rfl

/-- What `run_application` receives: the type and the remaining keys of the `component`
section of the final configuration. -/
theorem C16_extract (config comp : Dict) (ty : Cfg) (r : RunArgs)
    (hc : alookup "component" config = some (.dict comp)) (ht : alookup "type" comp = some ty)
    (h : extractRunArgs config = .ok r) :
    r.type = ty ∧ r.component = aerase "type" comp := by
  unfold extractRunArgs at h
  rw [hc] at h
  simp only [bind, Except.bind, pure, Except.pure, ht] at h
  cases h
  exact ⟨rfl, rfl⟩

/-! ### Key splitting: dots separate keys unless escaped with a backslash

`escapePart` and `joinParts` write a key path the way `--set` reads it. -/

def escapePart (p : List Char) : List Char :=
  p.flatMap fun c => if c = '.' then ['\\', '.'] else [c]

def joinParts : List (List Char) → List Char
  | [] => []
  | [p] => p
  | p :: q :: ps => p ++ '.' :: joinParts (q :: ps)

theorem escapePart_dot (p : List Char) : escapePart ('.' :: p) = '\\' :: '.' :: escapePart p := rfl

theorem escapePart_ne (c : Char) (p : List Char) (hc : c ≠ '.') : escapePart (c :: p) = c :: escapePart p := by
  simp only [escapePart, List.flatMap_cons, if_neg hc, List.cons_append, List.nil_append]

/-- Scanning an escaped part never splits: it all goes to the current part. Lean numbers the equations of
`splitDotsAux`: `eq_1` end of input, `eq_2` a dot after a backslash, `eq_3` any other dot (side condition: the current
part does not begin with a backslash), `eq_4` any other character; those of `unescapeDots`: `eq_1` backslash and dot,
`eq_2` any other character (side condition: not that pair). -/
theorem splitDotsAux_esc (p rest cur : List Char) :
    splitDotsAux (escapePart p ++ rest) cur = splitDotsAux rest ((escapePart p).reverse ++ cur) := by
  induction p generalizing cur with
  | nil => rfl
  | cons c p ih =>
    by_cases hd : c = '.'
    · subst hd
      rw [escapePart_dot, List.cons_append, List.cons_append,
        splitDotsAux.eq_4 _ _ _ (by decide), splitDotsAux.eq_2, ih]
      simp only [List.reverse_cons, List.append_assoc, List.cons_append, List.nil_append]
    · rw [escapePart_ne c p hd, List.cons_append, splitDotsAux.eq_4 _ _ _ hd, ih]
      simp only [List.reverse_cons, List.append_assoc, List.cons_append, List.nil_append]

/-- … and leaves no backslash on top of it: the dot that follows is a separator. -/
theorem esc_reverse_ne (p : List Char) (hp : '\\' ∉ p) (cur : List Char)
    (hcur : ∀ tail, cur ≠ '\\' :: tail) (tail : List Char) :
    (escapePart p).reverse ++ cur ≠ '\\' :: tail := by
  induction p generalizing cur with
  | nil => exact hcur tail
  | cons c p ih =>
    have hp' : '\\' ∉ p := fun h => hp (List.mem_cons_of_mem _ h)
    by_cases hd : c = '.'
    · subst hd
      rw [escapePart_dot, List.reverse_cons, List.reverse_cons, List.append_assoc, List.append_assoc]
      exact ih hp' _ fun _ h => by cases h
    · rw [escapePart_ne c p hd, List.reverse_cons, List.append_assoc]
      exact ih hp' _ fun _ h => hp ((List.cons.inj h).1 ▸ List.mem_cons_self)

theorem unescapeDots_esc (p : List Char) (hp : '\\' ∉ p) : unescapeDots (escapePart p) = p := by
  induction p with
  | nil => rfl
  | cons c p ih =>
    have hc : c ≠ '\\' := fun e => hp (e ▸ List.mem_cons_self)
    have hp' : '\\' ∉ p := fun h => hp (List.mem_cons_of_mem _ h)
    by_cases hd : c = '.'
    · subst hd
      rw [escapePart_dot, unescapeDots.eq_1, ih hp']
    · rw [escapePart_ne c p hd, unescapeDots.eq_2 _ _ (fun _ h _ => hc h), ih hp']

theorem splitDotsAux_join (ps : List (List Char)) (hne : ps ≠ [])
    (hb : ∀ p ∈ ps, '\\' ∉ p) :
    splitDotsAux (joinParts (ps.map escapePart)) [] = ps.map escapePart := by
  induction ps with
  | nil => exact absurd rfl hne
  | cons p ps ih =>
    cases ps with
    | nil =>
      have h := splitDotsAux_esc p [] []
      rw [List.append_nil, List.append_nil] at h
      rw [List.map_cons, List.map_nil, joinParts, h, splitDotsAux.eq_1, List.reverse_reverse]
    | cons q ps =>
      have ih' := ih (List.cons_ne_nil _ _) (fun r hr => hb r (List.mem_cons_of_mem _ hr))
      rw [List.map_cons] at ih'
      rw [List.map_cons, List.map_cons, joinParts, splitDotsAux_esc p _ [],
        splitDotsAux.eq_3 _ _ (esc_reverse_ne p (hb p List.mem_cons_self) [] fun _ h => by cases h),
        List.append_nil, List.reverse_reverse, ih']

/-- Round trip: splitting the dot-joined, dot-escaped parts gives the parts back
(for parts that contain no backslash themselves). -/
theorem C16_split_roundtrip (ps : List (List Char)) (hne : ps ≠ [])
    (hb : ∀ p ∈ ps, '\\' ∉ p) :
    splitKey (String.ofList (joinParts (ps.map escapePart))) = ps.map String.ofList := by
  rw [splitKey_ofList, splitDotsAux_join ps hne hb, List.map_map]
  apply List.map_congr_left
  intro p hp
  show String.ofList (unescapeDots (escapePart p)) = String.ofList p
  rw [unescapeDots_esc p (hb p hp)]

/-- Non-vacuity / sanity: nested key, escaped dot, plain key. -/
example : splitKey "component.a\\.b.c" = ["component", "a.b", "c"] := by
  rw [splitKey_ofList]
  decide +kernel
example : splitKey "logging" = ["logging"] := by
  rw [splitKey_ofList]
  decide +kernel
/-- … and empty segments are segments (a doubled, leading or trailing dot addresses the key `""`); the round trip
covers them, its parts may be empty. -/
example : splitKey "logging.loggers..level" = ["logging", "loggers", "", "level"] := by
  rw [splitKey_ofList]
  decide +kernel
example : splitKey ".a." = ["", "a", ""] := by
  rw [splitKey_ofList]
  decide +kernel

example :
    (cliConfig
      [[("services", .dict [("web", .dict [("component", .dict [("type", .atom (.str "w"))])]),
                            ("default", .dict [("component", .dict [("type", .atom (.str "d")), ("x", .atom (.other "1"))])])]),
        ("logging", .atom (.other "1"))]]
      [("services.default.component.x", some (.atom (.other "2")))] none (some "")).toOption.map
        (fun r => (r.type, r.component))
      = some (.atom (.str "d"), [("x", .atom (.other "2"))]) := by
  have hk : splitKey "services.default.component.x" = ["services", "default", "component", "x"] := by
    rw [splitKey_ofList]
    decide +kernel
  -- the rest evaluates; only decoding the key from its literal is slow, so it is split by `hk` first
  rw [cliConfig, loadConfig, applySets, applySet, hk]
  cbv

/-- The files are merged strictly from left to right: one more file is merged over the result of all the earlier ones
(never the other way round - merging is not associative, `C17_not_associative`). -/
theorem C16_files_left_to_right (files : List Dict) (last : Dict) (sets : List (String × Option Cfg)) :
    loadConfig (files ++ [last]) sets = applySets (merge (files.foldl merge []) last) sets := by
  simp [loadConfig, List.foldl_append]

end Asphalt
