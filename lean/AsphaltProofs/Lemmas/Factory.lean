/- The task-factory LTS (AsphaltModel/Factory.lean): `fstep?` read once as a relation (`Step`, `fstep_inv`),
what a step does to the handle book-keeping (`Eff`), and the invariant of reachable states (`Inv`). -/
import AsphaltModel.Factory
import AsphaltProofs.Lemmas.Assoc

namespace Asphalt
namespace Fc

theorem statusOf_setStatus (s : FSt) (h x : Nat) (st : BgStatus) :
    (s.setStatus h st).statusOf x = if h = x then some st else s.statusOf x :=
  alookup_ainsert x h st s.status

theorem startFailure_iff (s : FSt) (x : Nat) :
    s.startFailure x = true ↔ ∃ sp e, s.spec? x = some sp ∧ sp.beh = .failsBeforeStarted e := by
  unfold FSt.startFailure
  constructor
  · intro h
    split at h
    · exact ⟨_, _, ‹_›, rfl⟩
    · cases h
  · rintro ⟨⟨h0, b⟩, e, hsp, hb⟩
    rw [hsp]; cases hb; rfl

/-- When `fstep?` accepts a label, and the state it leads to, as far as the C09 theorems need it: `endedRet` accepts
any status where `fstep?` asks for `running` or `cancelAsked`, and `endedCrash`, `endedPending` keep only
`st ≠ .ended`; so `fstep?` implies `Step` (`fstep_inv`), not conversely. A task's exception escapes at once when
there is no handler (`endedCrash`; not if the task had not started, `endedStartFail`) and otherwise waits for the
handler's verdict (`endedPending`). -/
inductive Step (s : FSt) : FLab → FSt → Prop
  | spawn (h : Nat) : s.left = false → h ∉ s.spawned → s.spec? h ≠ none →
      Step s (.spawn h) { (s.setStatus h .running) with
        spawned := s.spawned ++ [h], live := s.live ++ [h], hist := s.hist ++ [.spawn h] }
  | taskBegan (h : Nat) : s.statusOf h ≠ none →
      Step s (.taskBegan h true s.snap) { s with hist := s.hist ++ [.taskBegan h true s.snap] }
  | cancelReq (h : Nat) : s.statusOf h = some .running →
      Step s (.cancelReq h) { s.setStatus h .cancelAsked with hist := s.hist ++ [.cancelReq h] }
  | cancelReqLate (h : Nat) (st : BgStatus) : s.statusOf h = some st → st ≠ .running →
      Step s (.cancelReq h) { s with hist := s.hist ++ [.cancelReq h] }
  | cancelSeen (h : Nat) : s.statusOf h = some .cancelAsked →
      Step s (.cancelSeen h) { s.setStatus h .cancelled with hist := s.hist ++ [.cancelSeen h] }
  | cancelSeenCrashed (h : Nat) : s.crashed ≠ [] →
      Step s (.cancelSeen h) { s with hist := s.hist ++ [.cancelSeen h] }
  | endedRet (h : Nat) (sp : BgSpec) (st : BgStatus) : s.spec? h = some sp → s.statusOf h = some st →
      (st = .cancelled ∨ s.crashed ≠ [] ∨ ∃ d, sp.beh = .endsAfter d none) →
      Step s (.taskEnded h none) { s.finish h with hist := s.hist ++ [.taskEnded h none] }
  | endedCrash (h e : Nat) (sp : BgSpec) (st : BgStatus) : s.spec? h = some sp →
      s.statusOf h = some st → st ≠ .ended →
      ((∃ d, sp.beh = .endsAfter d (some e)) ∨ sp.beh = .failsWhenCancelled e) → s.handler = .absent →
      Step s (.taskEnded h (some e))
        { s.finish h with crashed := s.crashed ++ [e], hist := s.hist ++ [.taskEnded h (some e)] }
  | endedStartFail (h e : Nat) (sp : BgSpec) : s.spec? h = some sp → s.statusOf h = some .running →
      sp.beh = .failsBeforeStarted e → s.handler = .absent →
      Step s (.taskEnded h (some e)) { s.finish h with hist := s.hist ++ [.taskEnded h (some e)] }
  | endedPending (h e : Nat) (sp : BgSpec) (st : BgStatus) (t : Bool) : s.spec? h = some sp →
      s.statusOf h = some st → st ≠ .ended →
      ((∃ d, sp.beh = .endsAfter d (some e)) ∨ sp.beh = .failsWhenCancelled e ∨
        sp.beh = .failsBeforeStarted e) →
      (sp.beh = .failsBeforeStarted e → st = .running) → s.handler = .returns t →
      Step s (.taskEnded h (some e))
        { s.setStatus h (.raisedPending e) with hist := s.hist ++ [.taskEnded h (some e)] }
  | handlerCalled (h e : Nat) (t : Bool) : s.statusOf h = some (.raisedPending e) →
      s.handler = .returns t → h ∉ s.handlerCalls →
      Step s (.handlerCalled h e)
        { s.finish h with
          crashed := if t || s.startFailure h then s.crashed else s.crashed ++ [e],
          handlerCalls := h :: s.handlerCalls, hist := s.hist ++ [.handlerCalled h e] }
  | observed : Step s (.observed (sortNat s.live)) { s with hist := s.hist ++ [.observed (sortNat s.live)] }
  | waitReturned (h : Nat) : s.statusOf h = some .ended →
      Step s (.waitReturned h) { s with hist := s.hist ++ [.waitReturned h] }
  | startFailed (h : Nat) : s.statusOf h = some .ended → s.startFailure h = true →
      Step s (.startFailed h) { s with hist := s.hist ++ [.startFailed h] }
  | exitBegin : s.exiting = false →
      Step s .exitBegin { s with exiting := true, hist := s.hist ++ [.exitBegin] }
  | blockLeft : s.left = false → ((s.exiting = true ∧ s.live = []) ∨ s.crashed ≠ []) →
      Step s .blockLeft { s with left := true, hist := s.hist ++ [.blockLeft] }
  | outcome (leaves : List Nat) : s.left = true → sortNat leaves = sortNat s.crashed →
      Step s (.outcome leaves) { s with reported := true, hist := s.hist ++ [.outcome leaves] }

/-- `fstep?` read once, on the side of the goal: one case for every branch of `fstep?`, numbered from top to bottom,
the tests on the way in the context; the branches that answer `none` have nothing to show. -/
theorem fstep_spec (s : FSt) (l : FLab) : (fstep? s l).elim True (Step s l) := by
  fun_cases fstep? s l with
  | case2 _ x hc =>
    simp only [Bool.and_eq_true, Bool.not_eq_true', List.contains_eq_mem, decide_eq_false_iff_not,
      Option.isSome_iff_ne_none] at hc
    exact Step.spawn x hc.1.1 hc.1.2 hc.2
  | case4 _ x ok saw st hst hc =>
    simp only [Bool.and_eq_true, beq_iff_eq] at hc
    obtain ⟨rfl, rfl⟩ := hc
    exact Step.taskBegan x (by rw [hst]; simp)
  | case7 _ x hst => exact Step.cancelReq x hst
  | case8 _ x st hne hst => exact Step.cancelReqLate x st hst hne
  | case10 _ x hst => exact Step.cancelSeen x hst
  | case11 _ x hc => exact Step.cancelSeenCrashed x (by simpa using hc)
  -- `taskEnded`: returns
  | case13 _ x sp hsp d hb _ hst | case14 _ x sp hsp d hb _ hst =>
    exact Step.endedRet x sp _ hsp hst (.inr (.inr ⟨d, hb⟩))
  | case27 _ x sp hsp e hb hc _ hst | case29 _ x sp hsp _ _ hst => exact Step.endedRet x sp _ hsp hst (.inl rfl)
  -- the catch-all row of the table: the case principle gives its test `hc`, the `if` itself stays in the goal
  | case30 _ x exc sp st hst hsp hc =>
    rw [if_pos hc]
    simp only [Bool.and_eq_true, Bool.not_eq_true', List.isEmpty_eq_false_iff, Option.isNone_iff_eq_none] at hc
    obtain ⟨hcr, rfl⟩ := hc
    exact Step.endedRet x sp _ hsp hst (.inr (.inl hcr))
  | case31 _ _ _ _ _ _ _ hc => rw [if_neg hc]; trivial
  -- `taskEnded`: raises, without and with a handler
  | case15 _ x sp hsp d e e' hb hc hh _ hst | case18 _ x sp hsp d e e' hb hc hh _ hst =>
    cases beq_iff_eq.mp hc
    exact Step.endedCrash x e sp _ hsp hst nofun (.inl ⟨d, hb⟩) hh
  | case16 _ x sp hsp d e e' hb hc t hh _ hst | case19 _ x sp hsp d e e' hb hc t hh _ hst =>
    cases beq_iff_eq.mp hc
    exact Step.endedPending x e sp _ t hsp hst nofun (.inl ⟨d, hb⟩) (by simp [hb]) hh
  | case21 _ x sp hsp e e' hb hc hh _ hst =>
    cases beq_iff_eq.mp hc
    exact Step.endedStartFail x e sp hsp hst hb hh
  | case22 _ x sp hsp e e' hb hc t hh _ hst =>
    cases beq_iff_eq.mp hc
    exact Step.endedPending x e sp _ t hsp hst nofun (.inr (.inr hb)) (fun _ => rfl) hh
  | case24 _ x sp hsp st e e' hb hc hh _ hst =>
    have hne : st ≠ .ended := by rintro rfl; simp at hc
    cases beq_iff_eq.mp (Bool.and_eq_true _ _ ▸ hc).1
    exact Step.endedCrash x e sp st hsp hst hne (.inr hb) hh
  | case25 _ x sp hsp st e e' hb hc t hh _ hst =>
    have hne : st ≠ .ended := by rintro rfl; simp at hc
    cases beq_iff_eq.mp (Bool.and_eq_true _ _ ▸ hc).1
    exact Step.endedPending x e sp st t hsp hst hne (.inr (.inl hb)) (by simp [hb]) hh
  | case33 _ x e e' t hh hst hc =>
    simp only [Bool.and_eq_true, beq_iff_eq, Bool.not_eq_true', List.contains_eq_mem,
      decide_eq_false_iff_not] at hc
    obtain ⟨rfl, hnc⟩ := hc
    have := Step.handlerCalled (s := s) x e t hst hh hnc
    split <;> rename_i hb
    · rw [if_pos hb] at this; exact this
    · rw [if_neg hb] at this; exact this
  | case36 _ hs hc =>
    cases beq_iff_eq.mp hc
    exact Step.observed
  | case38 _ x hst => exact Step.waitReturned x hst
  | case40 _ x hst hc => exact Step.startFailed x hst hc
  | case43 _ hc => exact Step.exitBegin (by simpa using hc)
  | case45 _ hc =>
    simp only [Bool.and_eq_true, Bool.or_eq_true, Bool.not_eq_true', List.isEmpty_iff,
      List.isEmpty_eq_false_iff] at hc
    exact Step.blockLeft hc.1 hc.2
  | case47 _ leaves hc =>
    simp only [Bool.and_eq_true, beq_iff_eq] at hc
    exact Step.outcome leaves hc.1 hc.2
  | _ => trivial

theorem fstep_inv (s s' : FSt) (l : FLab) (h : fstep? s l = some s') : Step s l s' := by
  have := fstep_spec s l
  rwa [h] at this


def isHC (x : Nat) : FLab → Bool
  | .handlerCalled y _ => y == x
  | _ => false

/-- What a step does to the fields `Inv` speaks of (`spawned`, `live`, `status`, `handlerCalls`, `hist`); the flags and
`crashed` may become anything. -/
inductive Eff (s : FSt) (l : FLab) : FSt → Prop
  | spawn (h : Nat) : l = .spawn h → h ∉ s.spawned →
      Eff s l { (s.setStatus h .running) with
        spawned := s.spawned ++ [h], live := s.live ++ [h], hist := s.hist ++ [l] }
  | set (h : Nat) (st st' : BgStatus) : s.statusOf h = some st → st ≠ .ended → st' ≠ .ended →
      (st' = .cancelAsked → l = .cancelReq h) → (∀ x, isHC x l = false) →
      Eff s l { s.setStatus h st' with hist := s.hist ++ [l] }
  | finish (h : Nat) (cr calls : List Nat) : s.statusOf h ≠ none →
      ((calls = s.handlerCalls ∧ ∀ x, isHC x l = false) ∨
        (∃ e, l = .handlerCalled h e ∧ h ∉ s.handlerCalls ∧ calls = h :: s.handlerCalls)) →
      Eff s l { s.finish h with crashed := cr, handlerCalls := calls, hist := s.hist ++ [l] }
  | same (b1 b2 b3 : Bool) : (∀ x, isHC x l = false) →
      Eff s l { s with exiting := b1, left := b2, reported := b3, hist := s.hist ++ [l] }

theorem Step.eff {s s' : FSt} {l : FLab} (h : Step s l s') : Eff s l s' := by
  cases h with
  | spawn h _ hns _ => exact .spawn h rfl hns
  | cancelReq h hst => exact .set h _ _ hst (by simp) (by simp) (fun _ => rfl) (fun _ => rfl)
  | cancelSeen h hst => exact .set h _ _ hst (by simp) (by simp) (by simp) (fun _ => rfl)
  | endedRet h sp st _ hst _ =>
    exact .finish h (s.finish h).crashed s.handlerCalls (by rw [hst]; simp) (.inl ⟨rfl, fun _ => rfl⟩)
  | endedCrash h e sp st _ hst _ _ _ =>
    exact .finish h _ s.handlerCalls (by rw [hst]; simp) (.inl ⟨rfl, fun _ => rfl⟩)
  | endedStartFail h e sp _ hst _ _ =>
    exact .finish h (s.finish h).crashed s.handlerCalls (by rw [hst]; simp) (.inl ⟨rfl, fun _ => rfl⟩)
  | endedPending h e sp st t _ hst hne _ _ _ =>
    exact .set h _ _ hst hne (by simp) (by simp) (fun _ => rfl)
  | handlerCalled h e t hst _ hnc =>
    exact .finish h _ _ (by rw [hst]; simp) (.inr ⟨e, rfl, hnc, rfl⟩)
  | exitBegin _ => exact .same true s.left s.reported (fun _ => rfl)
  | blockLeft _ _ => exact .same s.exiting true s.reported (fun _ => rfl)
  | outcome leaves _ _ => exact .same s.exiting s.left true (fun _ => rfl)
  | _ => exact .same s.exiting s.left s.reported (fun _ => rfl)

structure Inv (s : FSt) : Prop where
  handles : ∀ x, x ∈ s.live ↔ (x ∈ s.spawned ∧ s.statusOf x ≠ some .ended)
  asked : ∀ x, s.statusOf x = some .cancelAsked → FLab.cancelReq x ∈ s.hist
  /-- the handler is called at most once per task, and `handlerCalls` records for which -/
  once : ∀ x, (s.hist.filter (isHC x)).length ≤ 1 ∧
    (x ∉ s.handlerCalls → (s.hist.filter (isHC x)).length = 0)
  dom : ∀ x, s.statusOf x ≠ none → x ∈ s.spawned

theorem filter_isHC_snoc (hist : List FLab) (l : FLab) (x : Nat) (h : isHC x l = false) :
    (hist ++ [l]).filter (isHC x) = hist.filter (isHC x) := by
  rw [List.filter_append, List.filter_cons_of_neg (by simp [h])]; simp

theorem init_inv (specs : List BgSpec) (hd : Handler) (snap : List Nat) :
    Inv (FSt.init specs hd snap) := by
  refine ⟨?_, ?_, ?_, ?_⟩
  · intro x; simp [FSt.init]
  · intro x hx; simp [FSt.init, FSt.statusOf] at hx
  · intro x; simp [FSt.init]
  · intro x hx; exact absurd rfl hx

theorem Inv.step (s s' : FSt) (l : FLab) (hi : Inv s) (he : Eff s l s') : Inv s' := by
  obtain ⟨hhan, hasked, honce, hdom'⟩ := hi
  have once : ∀ l : FLab, (∀ x, isHC x l = false) → ∀ x,
      ((s.hist ++ [l]).filter (isHC x)).length ≤ 1 ∧
        (x ∉ s.handlerCalls → ((s.hist ++ [l]).filter (isHC x)).length = 0) := by
    intro l hl x
    rw [filter_isHC_snoc _ _ _ (hl x)]; exact honce x
  cases he with
  | spawn h hl hns =>
    subst hl
    refine ⟨fun x => ?_, fun x hx => ?_, once _ (fun _ => rfl), fun x hx => ?_⟩
    · show x ∈ s.live ++ [h] ↔ (x ∈ s.spawned ++ [h] ∧ alookup x (ainsert h .running s.status) ≠ _)
      rw [alookup_ainsert]
      by_cases hx : h = x
      · subst hx; simp
      · have hx' : ¬ x = h := fun e => hx e.symm
        simp only [List.mem_append, List.mem_singleton, hx, hx', or_false, if_false]
        exact hhan x
    · rcases alookup_ainsert_eq_some hx with ⟨_, hv⟩ | ⟨_, hx⟩
      · cases hv
      · exact List.mem_append_left _ (hasked x hx)
    · show x ∈ s.spawned ++ [h]
      rcases alookup_ainsert_ne_none.mp hx with rfl | hx
      · exact List.mem_append_right _ List.mem_cons_self
      · exact List.mem_append_left _ (hdom' x hx)
  | set h st st' hst hne hne' hask hl =>
    refine ⟨fun x => ?_, fun x hx => ?_, once l hl, fun x hx => ?_⟩
    · show x ∈ s.live ↔ (x ∈ s.spawned ∧ alookup x (ainsert h st' s.status) ≠ _)
      rw [alookup_ainsert, hhan x]
      by_cases hx : h = x
      · -- neither the old status of `h` nor the new one is `ended`
        subst hx
        rw [if_pos rfl, hst]
        exact and_congr_right fun _ =>
          ⟨fun _ e => hne' (Option.some.inj e), fun _ e => hne (Option.some.inj e)⟩
      · rw [if_neg hx]; exact Iff.rfl
    · show _ ∈ s.hist ++ [l]
      rcases alookup_ainsert_eq_some hx with ⟨rfl, hv⟩ | ⟨_, hx⟩
      · rw [hask hv]; exact List.mem_append_right _ List.mem_cons_self
      · exact List.mem_append_left _ (hasked x hx)
    · rcases alookup_ainsert_ne_none.mp hx with rfl | hx
      · exact hdom' h (by rw [hst]; simp)
      · exact hdom' x hx
  | finish h cr calls hdom hcase =>
    refine ⟨fun x => ?_, fun x hx => ?_, fun x => ?_, fun x hx => ?_⟩
    · show x ∈ s.live.filter (· != h) ↔ (x ∈ s.spawned ∧ alookup x (ainsert h .ended s.status) ≠ _)
      rw [alookup_ainsert, List.mem_filter, hhan x]
      by_cases hx : h = x
      · subst hx
        rw [if_pos rfl]
        exact ⟨fun hh => absurd hh.2 (by simp), fun hh => absurd rfl hh.2⟩
      · rw [if_neg hx]
        exact and_iff_left (bne_iff_ne.mpr fun e => hx e.symm)
    · rcases alookup_ainsert_eq_some hx with ⟨_, hv⟩ | ⟨_, hx⟩
      · cases hv
      · exact List.mem_append_left _ (hasked x hx)
    · show ((s.hist ++ [l]).filter (isHC x)).length ≤ 1 ∧
        (x ∉ calls → ((s.hist ++ [l]).filter (isHC x)).length = 0)
      rcases hcase with ⟨rfl, hl⟩ | ⟨e, rfl, hnc, rfl⟩
      · exact once l hl x
      · by_cases hx : x = h
        · -- the first call for `h`: none so far, since `h ∉ s.handlerCalls`
          subst hx
          rw [List.filter_append, List.length_append, (honce x).2 hnc,
            List.filter_cons_of_pos (by simp [isHC])]
          exact ⟨Nat.le_refl 1, fun hn => absurd List.mem_cons_self hn⟩
        · have hf : isHC x (FLab.handlerCalled h e) = false := by
            simp only [isHC, beq_eq_false_iff_ne]; exact fun e => hx e.symm
          rw [filter_isHC_snoc _ _ _ hf]
          exact ⟨(honce x).1, fun hn => (honce x).2 fun hm => hn (List.mem_cons_of_mem _ hm)⟩
    · rcases alookup_ainsert_ne_none.mp hx with rfl | hx
      · exact hdom' h hdom
      · exact hdom' x hx
  | same b1 b2 b3 hl =>
    exact ⟨hhan, fun x hx => List.mem_append_left _ (hasked x hx), once l hl, hdom'⟩

theorem exec_inv (s0 s : FSt) (ls : List FLab) (h : FExec s0 ls s) (h0 : Inv s0) : Inv s := by
  induction h with
  | nil s => exact h0
  | cons s s' s'' l ls hstep _ ih => exact ih (Inv.step s s' l h0 (fstep_inv s s' l hstep).eff)

theorem reach_inv (specs : List BgSpec) (hd : Handler) (snap : List Nat) (ls : List FLab) (s : FSt)
    (h : FExec (FSt.init specs hd snap) ls s) : Inv s :=
  exec_inv _ _ _ h (init_inv specs hd snap)

theorem faccept_exec (ls : List FLab) : ∀ (s s' : FSt) (n : Nat), faccept s ls n = .ok s' → FExec s ls s' := by
  induction ls with
  | nil =>
    intro s s' n h
    simp only [faccept] at h
    injection h with h; subst h; exact FExec.nil s
  | cons l ls ih =>
    intro s s' n h
    simp only [faccept] at h
    split at h
    · rename_i s1 hs1; exact FExec.cons s s1 s' l ls hs1 (ih s1 s' (n + 1) h)
    · exact absurd h (by simp)

end Fc
end Asphalt
