/-
Worlds: what one step of the kernel does to one context (`step_ctx`, `step_ctx_new`) and to the current-context
variables (`step_cur`), and from these how a property of contexts is lifted to every reachable world
(`reachable_ctx`). A step is analysed through three relations: `LocalStep` (what an operation that is neither
entering nor leaving does to the context it works on), `OwnStep` (that, or entered, or left) and `StepKind` (what
the world is afterwards); they keep of the operation what the lemmas about every operation need and no more.

`Op.exit` and `Op.exitMid` differ only in the stack that is torn down (`effStack be x.tds` / `midEff be k x.tds`).
`exitWith` is their common body, parametrised by the function that gives that stack; lemmas about leaving a
block are proved once, for `exitWith`, and specialised through `step_exit_exitWith` / `step_exitMid_exitWith`.
-/
import AsphaltProofs.Lemmas.Ext

namespace Asphalt

/-- The outcome reported by `__aexit__`, as computed in the `exit` case of `step`. -/
def exitOutcome (be : BlockEnd) (isRoot : Bool) (children : List CtxId) (excs : List Exc) : Out :=
  if !excs.isEmpty then .exitGroup excs
  else match be with
    | .raised e =>
      if !isRoot && !children.isEmpty then .corruption
      else .exitOwn e (isRoot && (match e with | .exn _ => false | _ => true))
    | .ret => if !children.isEmpty then .corruption else .exitNormal

def exitWith (w : World) (t : TaskId) (c : CtxId) (be : BlockEnd) (stk : List Cb → List Cb) :
    World × List Out :=
  match w.ctx? c with
  | Option.none => (w, [.badOp])
  | some x =>
    if x.state ≠ .opened then (w, [.badOp])
    else
      let x1 := { x with state := .closing, tds := [] }
      let (x2, tr, excs) := runTeardown c (w.curOf t) be (stk x.tds) x1
      let x3 := { x2 with state := .closed }
      let w1 := (w.setCtx c x3).setCur t (x.token.getD Option.none)
      (removeChild w1 x.parent c, tr ++ [.closed, exitOutcome be x.parent.isNone x3.children excs])

theorem step_exit_exitWith (w : World) (t : TaskId) (c : CtxId) (be : BlockEnd) :
    step w (.exit t c be) = exitWith w t c be (effStack be) := rfl

theorem step_exitMid_exitWith (w : World) (t : TaskId) (c : CtxId) (be : BlockEnd) (k : Nat) :
    step w (.exitMid t c be k) = exitWith w t c be (midEff be k) := rfl

def World.updCtx (w : World) (p : Option CtxId) (f : Ctx → Ctx) : World :=
  match p with
  | none => w
  | some p =>
    match w.ctx? p with
    | none => w
    | some px => w.setCtx p (f px)

/- `K2`: the lemmas of the world level. What property statements name unqualified (`exitOutcome`, `exitWith`,
`World.updCtx`, `Keeps`) is defined outside it. -/
namespace K2

/-! ### worlds -/

theorem World.ext' {w w' : World} (h1 : w.ctxs = w'.ctxs) (h2 : w.cur = w'.cur) : w = w' := by
  cases w; cases w'; simp_all

@[simp] theorem World.setCtx_cur (w : World) (c : CtxId) (x : Ctx) : (w.setCtx c x).cur = w.cur := rfl
@[simp] theorem World.setCur_ctxs (w : World) (t : TaskId) (c : Option CtxId) :
    (w.setCur t c).ctxs = w.ctxs := rfl

@[simp] theorem World.curOf_setCtx (w : World) (c : CtxId) (x : Ctx) (t : TaskId) :
    (w.setCtx c x).curOf t = w.curOf t := rfl

@[simp] theorem World.ctx?_setCur (w : World) (t : TaskId) (c : Option CtxId) (d : CtxId) :
    (w.setCur t c).ctx? d = w.ctx? d := rfl

theorem World.ctx?_setCtx (w : World) (c d : CtxId) (x : Ctx) :
    (w.setCtx c x).ctx? d = if c = d then some x else w.ctx? d := by
  simp only [World.ctx?, World.setCtx, alookup_ainsert]

@[simp] theorem World.ctx?_setCtx_same (w : World) (c : CtxId) (x : Ctx) :
    (w.setCtx c x).ctx? c = some x := by
  simp [World.ctx?_setCtx]

theorem World.ctx?_setCtx_other (w : World) (c d : CtxId) (x : Ctx) (h : c ≠ d) :
    (w.setCtx c x).ctx? d = w.ctx? d := by
  simp [World.ctx?_setCtx, h]

theorem World.curOf_setCur (w : World) (t t' : TaskId) (c : Option CtxId) :
    (w.setCur t c).curOf t' = if t = t' then c else w.curOf t' := by
  simp only [World.curOf, World.setCur, alookup_ainsert]
  split <;> simp

@[simp] theorem World.curOf_setCur_same (w : World) (t : TaskId) (c : Option CtxId) :
    (w.setCur t c).curOf t = c := by
  simp [World.curOf_setCur]

theorem World.curOf_setCur_other (w : World) (t t' : TaskId) (c : Option CtxId) (h : t ≠ t') :
    (w.setCur t c).curOf t' = w.curOf t' := by
  simp [World.curOf_setCur, h]

theorem World.setCtx_setCtx (w : World) (c : CtxId) (x y : Ctx) :
    (w.setCtx c x).setCtx c y = w.setCtx c y := by
  simp [World.setCtx, ainsert_ainsert]

theorem World.setCtx_self (w : World) (c : CtxId) (x : Ctx) (h : w.ctx? c = some x) :
    w.setCtx c x = w := by
  cases w
  simp only [World.setCtx, World.ctx?] at *
  rw [ainsert_self _ _ _ h]

theorem onCtx_some (w : World) (c : CtxId) (f : Ctx → Ctx × List Out) (x : Ctx)
    (h : w.ctx? c = some x) : onCtx w c f = (w.setCtx c (f x).1, (f x).2) := by
  simp [onCtx, h]

theorem onCtx_none (w : World) (c : CtxId) (f : Ctx → Ctx × List Out)
    (h : w.ctx? c = none) : onCtx w c f = (w, [.badOp]) := by
  simp [onCtx, h]

theorem onCtx_cur (w : World) (c : CtxId) (f : Ctx → Ctx × List Out) :
    (onCtx w c f).1.cur = w.cur := by
  unfold onCtx; split <;> rfl

theorem onCtx_ctx?_other (w : World) (c d : CtxId) (f : Ctx → Ctx × List Out) (h : c ≠ d) :
    (onCtx w c f).1.ctx? d = w.ctx? d := by
  unfold onCtx; split
  · rfl
  · simp [World.ctx?_setCtx_other _ _ _ _ h]

theorem onCtx_refused {w : World} {c : CtxId} {f : Ctx → Ctx × List Out} {x : Ctx} {o : List Out}
    (hx : w.ctx? c = some x) (h : f x = (x, o)) : onCtx w c f = (w, o) := by
  rw [onCtx_some w c f x hx, h, World.setCtx_self w c x hx]

theorem step_addTeardown (w : World) (c : CtxId) (x : Ctx) (cb : Cb) (hx : w.ctx? c = some x)
    (hs : x.state.usable = true) :
    step w (.addTeardown c cb true) = (w.setCtx c { x with tds := cb :: x.tds }, [.ok]) := by
  dsimp only [step]
  rw [onCtx_some w c _ x hx, hs]
  rfl

theorem World.ctx?_updCtx (w : World) (p : Option CtxId) (f : Ctx → Ctx) (d : CtxId) :
    (w.updCtx p f).ctx? d = if p = some d then (w.ctx? d).map f else w.ctx? d := by
  unfold World.updCtx
  cases p with
  | none => simp
  | some p =>
    by_cases h : p = d
    · subst h
      cases hp : w.ctx? p <;> simp [hp]
    · have h' : ¬ some p = some d := fun e => h (Option.some.inj e)
      cases hp : w.ctx? p <;> simp [hp, h', World.ctx?_setCtx_other _ _ _ _ h]

theorem World.updCtx_cur (w : World) (p : Option CtxId) (f : Ctx → Ctx) : (w.updCtx p f).cur = w.cur := by
  cases p with
  | none => rfl
  | some p =>
    dsimp only [World.updCtx]
    cases w.ctx? p <;> rfl

def dropChild (c : CtxId) (px : Ctx) : Ctx := { px with children := px.children.filter (· ≠ c) }

def addChild (c : CtxId) (px : Ctx) : Ctx := { px with children := px.children ++ [c] }

theorem removeChild_eq (w : World) (p : Option CtxId) (c : CtxId) :
    removeChild w p c = w.updCtx p (dropChild c) := rfl

/-! ### entering, leaving -/

def enteredCtx (w : World) (t : TaskId) (x : Ctx) : Ctx :=
  { x with state := .opened, token := some (w.curOf t) }

theorem step_enter (w : World) (t : TaskId) (c : CtxId) (x : Ctx)
    (hx : w.ctx? c = some x) (hs : x.state = .inactive) :
    step w (.enter t c) =
      (((w.setCtx c (enteredCtx w t x)).updCtx x.parent (addChild c)).setCur t (some c), [.ok]) := by
  dsimp only [step]
  rw [hx]
  dsimp only
  rw [if_neg (not_not_intro hs)]
  rfl

/-- A context may have been created as its own parent. -/
theorem step_enter_ctx? (w : World) (t : TaskId) (c : CtxId) (x : Ctx)
    (hx : w.ctx? c = some x) (hs : x.state = .inactive) (d : CtxId) :
    (step w (.enter t c)).1.ctx? d =
      if x.parent = some d then (if c = d then some (enteredCtx w t x) else w.ctx? d).map (addChild c)
      else if c = d then some (enteredCtx w t x) else w.ctx? d := by
  rw [step_enter w t c x hx hs]
  simp only [World.ctx?_updCtx, World.ctx?_setCur, World.ctx?_setCtx]

theorem step_enter_ctx (w : World) (t : TaskId) (c : CtxId) (x : Ctx)
    (hx : w.ctx? c = some x) (hs : x.state = .inactive) :
    ∃ ch, (step w (.enter t c)).1.ctx? c = some { enteredCtx w t x with children := ch } := by
  rw [step_enter_ctx? w t c x hx hs, if_pos rfl]
  split <;> exact ⟨_, rfl⟩

theorem step_enter_ctx?_parent (w : World) (t : TaskId) (c p : CtxId) (x : Ctx)
    (hx : w.ctx? c = some x) (hs : x.state = .inactive) (hp : x.parent = some p) (hne : p ≠ c) :
    (step w (.enter t c)).1.ctx? p = (w.ctx? p).map (addChild c) := by
  rw [step_enter_ctx? w t c x hx hs, if_pos hp, if_neg hne.symm]

def exitedWith (c : CtxId) (cur : Option CtxId) (be : BlockEnd) (st : List Cb) (x : Ctx) : Ctx :=
  { (runTeardown c cur be st { x with state := .closing, tds := [] }).1 with state := .closed }

theorem exitWith_opened (w : World) (t : TaskId) (c : CtxId) (be : BlockEnd)
    (stk : List Cb → List Cb) (x : Ctx) (hx : w.ctx? c = some x) (hs : x.state = .opened) :
    exitWith w t c be stk =
      (removeChild
        ((w.setCtx c (exitedWith c (w.curOf t) be (stk x.tds) x)).setCur t (x.token.getD Option.none)) x.parent c,
       (runTeardown c (w.curOf t) be (stk x.tds) { x with state := .closing, tds := [] }).2.1 ++
         [.closed, exitOutcome be x.parent.isNone x.children
            (runTeardown c (w.curOf t) be (stk x.tds) { x with state := .closing, tds := [] }).2.2]) := by
  have hch : (runTeardown c (w.curOf t) be (stk x.tds) { x with state := .closing, tds := [] }).1.children =
      x.children := (runTeardown_ext c (w.curOf t) be (stk x.tds) _).children
  unfold exitWith
  rw [hx]
  dsimp only
  rw [if_neg (not_not_intro hs)]
  refine Prod.ext rfl ?_
  dsimp only
  -- the model reads the children after the teardown; no callback changes them
  rw [hch]

theorem exitWith_ctx? (w : World) (t : TaskId) (c : CtxId) (be : BlockEnd) (stk : List Cb → List Cb)
    (x : Ctx) (hx : w.ctx? c = some x) (hs : x.state = .opened) (d : CtxId) :
    (exitWith w t c be stk).1.ctx? d =
      if x.parent = some d then
        (if c = d then some (exitedWith c (w.curOf t) be (stk x.tds) x) else w.ctx? d).map (dropChild c)
      else if c = d then some (exitedWith c (w.curOf t) be (stk x.tds) x) else w.ctx? d := by
  rw [exitWith_opened w t c be stk x hx hs, removeChild_eq]
  simp only [World.ctx?_updCtx, World.ctx?_setCur, World.ctx?_setCtx]

theorem exitWith_ctx?_parent (w : World) (t : TaskId) (c p : CtxId) (be : BlockEnd) (stk : List Cb → List Cb)
    (x : Ctx) (hx : w.ctx? c = some x) (hs : x.state = .opened) (hp : x.parent = some p) (hne : p ≠ c) :
    (exitWith w t c be stk).1.ctx? p = (w.ctx? p).map (dropChild c) := by
  rw [exitWith_ctx? w t c be stk x hx hs, if_pos hp, if_neg hne.symm]

theorem exitWith_ctx?_other (w : World) (t : TaskId) (c : CtxId) (be : BlockEnd) (stk : List Cb → List Cb)
    (x : Ctx) (hx : w.ctx? c = some x) (hs : x.state = .opened) (d : CtxId) (y : Ctx)
    (hd : w.ctx? d = some y) (hcd : c ≠ d) :
    ∃ ch, (exitWith w t c be stk).1.ctx? d = some { y with children := ch } := by
  rw [exitWith_ctx? w t c be stk x hx hs, if_neg hcd, hd]
  split <;> exact ⟨_, rfl⟩

theorem exitWith_curOf (w : World) (t : TaskId) (c : CtxId) (be : BlockEnd) (stk : List Cb → List Cb)
    (x : Ctx) (hx : w.ctx? c = some x) (hs : x.state = .opened) :
    (exitWith w t c be stk).1.curOf t = x.token.getD none := by
  rw [exitWith_opened w t c be stk x hx hs, removeChild_eq]
  simp only [World.curOf, World.updCtx_cur]
  exact World.curOf_setCur_same _ _ _

theorem exitWith_closed (w : World) (t : TaskId) (c : CtxId) (be : BlockEnd)
    (stk : List Cb → List Cb) (x : Ctx) (hx : w.ctx? c = some x) (hs : x.state = .opened) :
    ∃ x', (exitWith w t c be stk).1.ctx? c = some x' ∧ x'.state = .closed ∧ x'.tds = [] := by
  rw [exitWith_ctx? w t c be stk x hx hs, if_pos rfl]
  split
  · exact ⟨_, rfl, rfl, runTeardown_tds c (w.curOf t) be (stk x.tds) _⟩
  · exact ⟨_, rfl, rfl, runTeardown_tds c (w.curOf t) be (stk x.tds) _⟩

theorem exitWith_congr (w : World) (t : TaskId) (c : CtxId) (be : BlockEnd)
    (stk stk' : List Cb → List Cb) (h : ∀ x, w.ctx? c = some x → stk x.tds = stk' x.tds) :
    exitWith w t c be stk = exitWith w t c be stk' := by
  unfold exitWith
  cases hx : w.ctx? c with
  | none => rfl
  | some x => dsimp only; rw [h x hx]

theorem exitOutcome_group (be : BlockEnd) (isRoot : Bool) (children : List CtxId) {excs : List Exc}
    (h : excs ≠ []) : exitOutcome be isRoot children excs = .exitGroup excs := by
  cases excs with
  | nil => exact absurd rfl h
  | cons e es => rfl

theorem exitOutcome_corruption (be : BlockEnd) (isRoot : Bool) {children : List CtxId}
    (hch : children ≠ []) (hroot : be = .ret ∨ isRoot = false) :
    exitOutcome be isRoot children [] = .corruption := by
  cases children with
  | nil => exact absurd rfl hch
  | cons a l =>
    rcases hroot with h | h <;> subst h
    · rfl
    · cases be <;> rfl

/-! ### what a step does to the world -/

def leaves (op : Op) (t : TaskId) (c : CtxId) : Prop :=
  (∃ be, op = .exit t c be) ∨ (∃ be k, op = .exitMid t c be k)

inductive LocalStep (w : World) : Op → CtxId → Ctx → Ctx → Prop
  | add (c x a) : LocalStep w (.add c a) c x (ctxAdd c x a).1
  | addFactory (c x a) : LocalStep w (.addFactory c a) c x (ctxAddFactory c x a).1
  | getNowait (c x k opt) : LocalStep w (.getNowait c k opt) c x (ctxGetNowait c x k opt).1
  | get (t c x k opt) : LocalStep w (.get t c k opt) c x (ctxGet c x t k opt).1
  | genFinish (c x fid next) : LocalStep w (.genFinish c fid next) c x (ctxGenFinish c x fid next).1
  | cancelGet (c x lid next) : LocalStep w (.cancelGet c lid next) c x (ctxCancelGet c x lid next).1
  | addTeardown (c x cb) : LocalStep w (.addTeardown c cb true) c x { x with tds := cb :: x.tds }
  | inject (t c x isAsync deps) : w.curOf t = some c →
      LocalStep w (.inject t isAsync deps false) c x (resolveDeps c isAsync t x deps).1

/-- In `leave` the way the block ended and the stack torn down are any `be`, `st`, not those of the operation:
enough for what holds whatever is torn down. -/
inductive OwnStep (w : World) (op : Op) (c : CtxId) (x : Ctx) : Ctx → Prop
  | loc {y} : LocalStep w op c x y → OwnStep w op c x y
  | enter (t) : op = .enter t c → x.state = .inactive → OwnStep w op c x (enteredCtx w t x)
  | leave (t be st) : leaves op t c → x.state = .opened → OwnStep w op c x (exitedWith c (w.curOf t) be st x)

theorem _root_.Asphalt.Closed.localStep {R : Ctx → Ctx → Prop} {w : World} {op : Op} {c : CtxId} {x y : Ctx}
    (h : Closed c R) (hadd : ∀ x a, R x (ctxAdd c x a).1) (hfac : ∀ x a, R x (ctxAddFactory c x a).1)
    (htd : ∀ x cb, R x { x with tds := cb :: x.tds }) (hl : LocalStep w op c x y) : R x y := by
  cases hl with
  | add => exact hadd _ _
  | addFactory => exact hfac _ _
  | getNowait => exact h.ctxGetNowait _ _ _
  | get => exact h.ctxGet _ _ _ _
  | genFinish => exact h.ctxGenFinish _ _ _
  | cancelGet => exact h.ctxCancelGet _ _ _
  | addTeardown => exact htd _ _
  | inject => exact h.resolveDeps _ _ _ _

theorem LocalStep.ext {w : World} {op : Op} {c : CtxId} {x y : Ctx} (h : LocalStep w op c x y) : Ext x y :=
  (ext_closed c).localStep (ctxAdd_ext c) (ctxAddFactory_ext c) (fun _ _ => .of_eq rfl rfl rfl rfl rfl rfl) h

/-- As in `OwnStep`, `be` and `st` of `leave` and the parent `q` of `new` are not tied to the operation. -/
inductive StepKind (w : World) (op : Op) : World → Prop
  | same : StepKind w op w
  | loc {c x y} : w.ctx? c = some x → LocalStep w op c x y → StepKind w op (w.setCtx c y)
  | new {t c p} (q : Option CtxId) : op = .new t c p → w.ctx? c = none →
      StepKind w op (w.setCtx c (freshCtx q (q.bind w.ctx?)))
  | enter {t c x} : op = .enter t c → w.ctx? c = some x → x.state = .inactive →
      StepKind w op (((w.setCtx c (enteredCtx w t x)).updCtx x.parent (addChild c)).setCur t (some c))
  | leave {t c x} (be : BlockEnd) (st : List Cb) : leaves op t c → w.ctx? c = some x → x.state = .opened →
      StepKind w op (((w.setCtx c (exitedWith c (w.curOf t) be st x)).setCur t (x.token.getD none)).updCtx
        x.parent (dropChild c))
  | spawn {t t'} : op = .spawn t t' → StepKind w op (w.setCur t' (w.curOf t))

theorem StepKind.refused {w : World} {op : Op} {c : CtxId} {x : Ctx} (hx : w.ctx? c = some x) :
    StepKind w op (w.setCtx c x) := by
  rw [World.setCtx_self _ _ _ hx]; exact .same

theorem StepKind.onCtx {w : World} {op : Op} {c : CtxId} {f : Ctx → Ctx × List Out}
    (h : ∀ x, LocalStep w op c x (f x).1) : StepKind w op (onCtx w c f).1 := by
  cases hx : w.ctx? c with
  | none => rw [onCtx_none _ _ _ hx]; exact .same
  | some x => rw [onCtx_some _ _ _ _ hx]; exact .loc hx (h x)

theorem StepKind.exitWith {w : World} {op : Op} {t : TaskId} {c : CtxId} (be : BlockEnd)
    (stk : List Cb → List Cb) (hl : leaves op t c) : StepKind w op (exitWith w t c be stk).1 := by
  fun_cases Asphalt.exitWith w t c be stk with
  | case1 | case2 => exact .same
  | case3 x hx hs _ x2 tr excs he =>
    cases congrArg Prod.fst he
    exact .leave be _ hl hx (Decidable.not_not.mp hs)

theorem step_kind (w : World) (op : Op) : StepKind w op (step w op).1 := by
  cases op with
  | new t c p =>
    dsimp only [step]
    split
    · exact .same
    · next h => exact .new _ rfl h
  | enter t c =>
    cases hx : w.ctx? c with
    | none => dsimp only [step]; rw [hx]; exact .same
    | some x =>
      by_cases hs : x.state = .inactive
      · rw [step_enter w t c x hx hs]; exact .enter rfl hx hs
      · dsimp only [step]; rw [hx]; dsimp only; rw [if_pos hs]; exact .same
  | exit t c be => exact .exitWith be _ (.inl ⟨be, rfl⟩)
  | exitMid t c be k => exact .exitWith be _ (.inr ⟨be, k, rfl⟩)
  | add c a => exact .onCtx (fun x => .add c x a)
  | addFactory c a => exact .onCtx (fun x => .addFactory c x a)
  | getNowait c k opt => exact .onCtx (fun x => .getNowait c x k opt)
  | get t c k opt => exact .onCtx (fun x => .get t c x k opt)
  | genFinish c fid next => exact .onCtx (fun x => .genFinish c x fid next)
  | cancelGet c lid next => exact .onCtx (fun x => .cancelGet c x lid next)
  | addTeardown c cb callable =>
    dsimp only [step]
    cases hx : w.ctx? c with
    | none => rw [onCtx_none _ _ _ hx]; exact .same
    | some x =>
      rw [onCtx_some _ _ _ _ hx]
      cases hu : x.state.usable with
      | false => exact .refused hx
      | true =>
        cases callable with
        | false => exact .refused hx
        | true => exact .loc hx (.addTeardown c x cb)
  | inject t isAsync deps badUnion =>
    dsimp only [step]
    cases badUnion with
    | true => exact .same
    | false =>
      rw [if_neg Bool.false_ne_true]
      cases hc : w.curOf t with
      | none => exact .same
      | some c =>
        dsimp only
        cases hx : w.ctx? c with
        | none => exact .same
        | some x => exact .loc hx (.inject t c x isAsync deps hc)
  | spawn t t' => exact .spawn rfl
  | getAll c | parentOf c | stateOf c => dsimp only [step]; cases w.ctx? c <;> exact .same
  | current t => dsimp only [step]; cases w.curOf t <;> exact .same
  | decorate => dsimp only [step]; split <;> exact .same

/-- Up to its `children`, which entering or leaving a child context rewrites. -/
theorem step_ctx (w : World) (op : Op) (c : CtxId) (x : Ctx) (hx : w.ctx? c = some x) :
    ∃ y ch, (step w op).1.ctx? c = some { y with children := ch } ∧ (y = x ∨ OwnStep w op c x y) := by
  have set : ∀ {c' : CtxId} {x' : Ctx} (z : Ctx), w.ctx? c' = some x' →
      (c' = c → x' = x → OwnStep w op c x z) →
      ∃ y, (w.setCtx c' z).ctx? c = some y ∧ (y = x ∨ OwnStep w op c x y) := by
    intro c' x' z hx' hz
    rw [World.ctx?_setCtx]
    split
    · next e => exact ⟨z, rfl, .inr (hz e (Option.some.inj ((e ▸ hx').symm.trans hx)))⟩
    · exact ⟨x, hx, .inl rfl⟩
  have upd : ∀ (w1 : World) (p : Option CtxId) (f : Ctx → Ctx) (y : Ctx), w1.ctx? c = some y →
      (∀ z, ∃ ch, f z = { z with children := ch }) →
      ∃ ch, (w1.updCtx p f).ctx? c = some { y with children := ch } := by
    intro w1 p f y hy hf
    rw [World.ctx?_updCtx, hy]
    split
    · exact (hf y).imp fun ch e => congrArg some e
    · exact ⟨_, rfl⟩
  have hk := step_kind w op
  generalize (step w op).1 = w' at hk ⊢
  cases hk with
  | same | spawn => exact ⟨x, _, hx, .inl rfl⟩
  | loc hx' hl =>
    obtain ⟨y, hy, h⟩ := set _ hx' (fun e ex => by subst e ex; exact .loc hl)
    exact ⟨y, _, hy, h⟩
  | @new t c' p q _ hc' =>
    rw [World.ctx?_setCtx_other _ _ _ _ (by rintro rfl; rw [hx] at hc'; cases hc')]
    exact ⟨x, _, hx, .inl rfl⟩
  | @enter t c' x' hop hx' hs' =>
    obtain ⟨y, hy, h⟩ := set _ hx' (fun e ex => by subst e ex; exact .enter t hop hs')
    obtain ⟨ch, hch⟩ := upd _ x'.parent (addChild c') y hy (fun z => ⟨_, rfl⟩)
    exact ⟨y, ch, hch, h⟩
  | @leave t c' x' be st hl hx' hs' =>
    obtain ⟨y, hy, h⟩ := set _ hx' (fun e ex => by subst e ex; exact .leave t be st hl hs')
    obtain ⟨ch, hch⟩ := upd ((w.setCtx c' _).setCur t _) x'.parent (dropChild c') y hy (fun z => ⟨_, rfl⟩)
    exact ⟨y, ch, hch, h⟩

theorem step_ctx_new (w : World) (op : Op) (c : CtxId) (x' : Ctx) (hx : w.ctx? c = none)
    (h : (step w op).1.ctx? c = some x') :
    ∃ t p q, op = .new t c p ∧ x' = freshCtx q (q.bind w.ctx?) := by
  have upd : ∀ (w1 : World) (p : Option CtxId) (f : Ctx → Ctx), w1.ctx? c = none →
      (w1.updCtx p f).ctx? c = none := by
    intro w1 p f h1
    rw [World.ctx?_updCtx, h1]
    split <;> rfl
  have other : ∀ {c' : CtxId} {z y : Ctx}, w.ctx? c' = some y → (w.setCtx c' z).ctx? c = none := by
    intro c' z y hy
    rw [World.ctx?_setCtx_other _ _ _ _ (by rintro rfl; rw [hx] at hy; cases hy)]
    exact hx
  have hk := step_kind w op
  generalize (step w op).1 = w' at hk h
  revert h
  cases hk with
  | same => intro h; rw [hx] at h; cases h
  | loc hx' _ => intro h; rw [other hx'] at h; cases h
  | @new t c' p q hop hc' =>
    intro h
    by_cases hcc : c' = c
    · subst hcc
      rw [World.ctx?_setCtx_same] at h
      cases h
      exact ⟨t, p, q, hop, rfl⟩
    · rw [World.ctx?_setCtx_other _ _ _ _ hcc, hx] at h; cases h
  | enter _ hx' _ => intro h; rw [World.ctx?_setCur, upd _ _ _ (other hx')] at h; cases h
  | leave _ _ _ hx' _ => intro h; rw [upd _ _ _ (by rw [World.ctx?_setCur]; exact other hx')] at h; cases h
  | spawn _ => intro h; rw [World.ctx?_setCur, hx] at h; cases h

theorem step_cur (w : World) (op : Op) :
    (step w op).1.cur = w.cur ∨
    ∃ t v, (step w op).1.cur = ainsert t v w.cur ∧
      ((∃ c, op = .enter t c) ∨ (∃ c, leaves op t c) ∨ ∃ t0, op = .spawn t0 t) := by
  have hk := step_kind w op
  generalize (step w op).1 = w' at hk ⊢
  cases hk with
  | same | loc | new => exact .inl rfl
  | @enter t c x hop _ _ => exact .inr ⟨t, _, by rw [World.setCur, World.updCtx_cur]; rfl, .inl ⟨c, hop⟩⟩
  | @leave t c x be st hl _ _ => exact .inr ⟨t, _, by rw [World.updCtx_cur]; rfl, .inr (.inl ⟨c, hl⟩)⟩
  | @spawn t t' hop => exact .inr ⟨t', _, rfl, .inr (.inr ⟨t, hop⟩)⟩

theorem reachable_ctx {P : Ctx → Prop}
    (hfresh : ∀ q px, (∀ y, px = some y → P y) → P (freshCtx q px))
    (hown : ∀ w op c x y, OwnStep w op c x y → P x → P y)
    (hch : ∀ x ch, P x → P { x with children := ch }) {w : World} (hr : Reachable w) :
    ∀ c x, w.ctx? c = some x → P x := by
  induction hr with
  | init => intro c x hx; simp [World.ctx?, World.empty] at hx
  | step w op _ ih =>
    intro c x' h
    cases hx : w.ctx? c with
    | none =>
      obtain ⟨t, p, q, _, rfl⟩ := step_ctx_new w op c x' hx h
      refine hfresh q _ (fun y hy => ?_)
      cases q with
      | none => cases hy
      | some q => exact ih q y hy
    | some x =>
      obtain ⟨y, ch, hy, hstep⟩ := step_ctx w op c x hx
      rw [hy] at h; cases h
      refine hch y ch ?_
      rcases hstep with rfl | hstep
      · exact ih c _ hx
      · exact hown w op c x y hstep (ih c x hx)

theorem step_ctx_lifecycle (w : World) (op : Op) (c : CtxId) (x : Ctx) (hx : w.ctx? c = some x)
    (hent : ∀ t, op = .enter t c → x.state ≠ .inactive)
    (hexit : ∀ t be, op = .exit t c be → x.state ≠ .opened)
    (hexitMid : ∀ t be k, op = .exitMid t c be k → x.state ≠ .opened) :
    ∃ y, (step w op).1.ctx? c = some y ∧ y.parent = x.parent ∧ y.state = x.state ∧
      y.token = x.token := by
  obtain ⟨y, ch, hy, rfl | hown⟩ := step_ctx w op c x hx
  · exact ⟨_, hy, rfl, rfl, rfl⟩
  · cases hown with
    | loc hl => exact ⟨_, hy, hl.ext.parent, hl.ext.state, hl.ext.token⟩
    | enter t hop hs => exact absurd hs (hent t hop)
    | leave t be st hl hs =>
      rcases hl with ⟨be', e⟩ | ⟨be', k, e⟩
      · exact absurd hs (hexit t be' e)
      · exact absurd hs (hexitMid t be' k e)

end K2

open K2

/-- The part of `Ext` that survives entering and leaving a block, which change `state` and `token`. -/
structure Keeps (x x' : Ctx) : Prop where
  res : ∀ k c, alookup k x.res = some c → alookup k x'.res = some c
  fac : ∀ k f, alookup k x.fac = some f → alookup k x'.fac = some f
  ndr : NoDupKeys x.res → NoDupKeys x'.res
  ndf : NoDupKeys x.fac → NoDupKeys x'.fac

theorem Ext.keeps {x x' : Ctx} (h : Ext x x') : Keeps x x' := ⟨h.res, h.fac, h.ndr, h.ndf⟩

theorem Keeps.of_tables {x x' : Ctx} (hres : x'.res = x.res) (hfac : x'.fac = x.fac) : Keeps x x' :=
  ⟨fun _ _ h => by rw [hres]; exact h, fun _ _ h => by rw [hfac]; exact h,
   fun h => by rw [hres]; exact h, fun h => by rw [hfac]; exact h⟩

theorem K2.OwnStep.keeps {w : World} {op : Op} {c : CtxId} {x y : Ctx} (h : OwnStep w op c x y) : Keeps x y := by
  cases h with
  | loc hl => exact hl.ext.keeps
  | enter => exact Keeps.of_tables rfl rfl
  | leave t be st =>
    have h := runTeardown_ext c (w.curOf t) be st { x with state := .closing, tds := [] }
    exact ⟨h.res, h.fac, h.ndr, h.ndf⟩

theorem step_some (w : World) (op : Op) (c : CtxId) (x : Ctx) (hx : w.ctx? c = some x) :
    ∃ x', (step w op).1.ctx? c = some x' ∧ Keeps x x' := by
  obtain ⟨y, ch, hy, rfl | hown⟩ := step_ctx w op c x hx
  · exact ⟨_, hy, Keeps.of_tables rfl rfl⟩
  · exact ⟨_, hy, hown.keeps.res, hown.keeps.fac, hown.keeps.ndr, hown.keeps.ndf⟩

/-! ### `run` -/

theorem run_nil (w : World) : run w [] = (w, []) := rfl

theorem run_cons (w : World) (op : Op) (ops : List Op) :
    run w (op :: ops) =
      ((run (step w op).1 ops).1, (step w op).2 :: (run (step w op).1 ops).2) := rfl

theorem run_keeps {P : World → Prop} {ops : List Op} (h : ∀ op ∈ ops, ∀ w, P w → P (step w op).1) :
    ∀ w, P w → P (run w ops).1 := by
  induction ops with
  | nil => exact fun _ hw => hw
  | cons op ops ih =>
    exact fun w hw => ih (fun o ho => h o (List.mem_cons_of_mem _ ho)) _ (h op List.mem_cons_self w hw)

end Asphalt
