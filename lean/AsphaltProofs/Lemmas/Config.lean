/- Helpers of the configuration properties: inverting a `do` block of `Except` (C14, C16), induction over the nesting of a
configuration (the laws of `merge`, C17), and for C16 what a successful `--set` has done, `splitKey` on a literal, `truthyName`. -/
import AsphaltModel.Config
import AsphaltProofs.Lemmas.Assoc

namespace Asphalt

theorem Except.bind_eq_ok {ε α β : Type} (x : Except ε α) (f : α → Except ε β) (b : β) :
    x >>= f = .ok b ↔ ∃ a, x = .ok a ∧ f a = .ok b := by
  cases x <;> simp [bind, Except.bind]

theorem Dict.deep_induction {P : Dict → Prop}
    (step : ∀ a, (∀ k x, alookup k a = some (.dict x) → P x) → P a) (a : Dict) : P a :=
  step a fun _ x _ => Dict.deep_induction step x
termination_by sizeOf a
decreasing_by
  have := List.sizeOf_lt_of_mem (alookup_mem _ _ a ‹_›)
  simp at this
  omega

theorem truthyName_some (o : String) (h : o ≠ "") : truthyName (some o) = some o := by
  unfold truthyName
  split
  · rename_i heq
    exact absurd (Option.some.inj heq) h
  · rfl

theorem setPath_cons_cons_ok (k k2 : String) (ks : List String) (v : Cfg) (d d' : Dict)
    (h : setPath (k :: k2 :: ks) v d = .ok d') :
    ∃ sub sub', (alookup k d = none ∧ sub = [] ∨ alookup k d = some (.dict sub)) ∧
      setPath (k2 :: ks) v sub = .ok sub' ∧ d' = ainsert k (.dict sub') d := by
  rw [setPath] at h
  split at h
  · rw [Except.bind_eq_ok] at h
    obtain ⟨sub', hs, h⟩ := h
    cases h
    exact ⟨[], sub', .inl ⟨‹_›, rfl⟩, hs, rfl⟩
  · rw [Except.bind_eq_ok] at h
    obtain ⟨sub', hs, h⟩ := h
    cases h
    exact ⟨_, sub', .inr ‹_›, hs, rfl⟩
  · cases h

theorem setPath_cons_ok (k : String) (ks : List String) (v : Cfg) (d d' : Dict)
    (h : setPath (k :: ks) v d = .ok d') : ∃ c, d' = ainsert k c d ∧ getPath ks c = some v := by
  induction ks generalizing k d d' with
  | nil =>
    rw [setPath] at h
    cases h
    exact ⟨v, rfl, rfl⟩
  | cons k2 ks ih =>
    obtain ⟨sub, sub', _, hs, rfl⟩ := setPath_cons_cons_ok k k2 ks v d d' h
    obtain ⟨c, rfl, hc⟩ := ih k2 sub sub' hs
    refine ⟨_, rfl, ?_⟩
    rw [getPath, alookup_ainsert_same]
    exact hc

/-- A string literal unfolds to `String.ofList cs`: with this, concrete keys evaluate without decoding a string. -/
theorem splitKey_ofList (cs : List Char) :
    splitKey (String.ofList cs) = (splitDotsAux cs []).map fun p => String.ofList (unescapeDots p) := by
  unfold splitKey; rw [String.toList_ofList]

end Asphalt
