/- Duplicate-free lists: where the keys that a function gives to the elements are pairwise distinct, the key determines
the element (`eq_of_filterMap_nodup`) and its position (`prefix_unique_of_filterMap_nodup`); concatenations without
duplicates (for `publishedKeys` of Props/C05_deadlock.lean). -/

namespace Asphalt

theorem nodup_snoc {α : Type} {l : List α} {a : α} (h : l.Nodup) (ha : a ∉ l) : (l ++ [a]).Nodup := by
  rw [List.nodup_append]
  refine ⟨h, List.pairwise_singleton _ a, fun x hx y hy => ?_⟩
  rw [List.mem_singleton.mp hy]
  exact fun e => ha (e ▸ hx)

theorem eq_of_filterMap_nodup {α κ : Type} {f : α → Option κ} {l : List α} (h : (l.filterMap f).Nodup)
    {a a' : α} {k : κ} (ha : a ∈ l) (ha' : a' ∈ l) (hk : f a = some k) (hk' : f a' = some k) : a = a' := by
  induction l with
  | nil => cases ha
  | cons x rest ih =>
    have hx : ∀ b ∈ rest, f b = some k → f x ≠ some k := by
      intro b hb hfb hfx
      rw [List.filterMap_cons_some hfx] at h
      exact (List.nodup_cons.mp h).1 (List.mem_filterMap.mpr ⟨b, hb, hfb⟩)
    rcases List.mem_cons.mp ha with rfl | hr <;> rcases List.mem_cons.mp ha' with rfl | hr'
    · rfl
    · exact absurd hk (hx a' hr' hk')
    · exact absurd hk' (hx a hr hk)
    · exact ih (h.sublist ((List.sublist_cons_self x rest).filterMap f)) hr hr'

theorem eq_of_map_nodup {α κ : Type} {f : α → κ} {l : List α} (h : (l.map f).Nodup) {a a' : α}
    (ha : a ∈ l) (ha' : a' ∈ l) (hk : f a = f a') : a = a' :=
  eq_of_filterMap_nodup (f := some ∘ f) (List.filterMap_eq_map ▸ h) ha ha' rfl (congrArg some hk.symm)

theorem find?_key_of_mem {α κ : Type} [DecidableEq κ] {f : α → κ} {l : List α}
    (hinj : ∀ a ∈ l, ∀ b ∈ l, f a = f b → a = b) {x : α} (hx : x ∈ l) :
    l.find? (f · == f x) = some x := by
  cases h : l.find? (f · == f x) with
  | none => exact absurd (beq_self_eq_true _) (List.find?_eq_none.mp h x hx)
  | some y => rw [hinj y (List.mem_of_find?_eq_some h) x hx (eq_of_beq (List.find?_some h :))]

theorem takeWhile_of_filterMap_nodup {α κ : Type} [DecidableEq κ] {f : α → Option κ} {pre post : List α}
    {x : α} {k : κ} (h : ((pre ++ x :: post).filterMap f).Nodup) (hk : f x = some k) :
    (pre ++ x :: post).takeWhile (fun a => f a != some k) = pre := by
  rw [List.takeWhile_append_of_pos, List.takeWhile_cons_of_neg (by simp [hk]), List.append_nil]
  intro a ha
  rw [List.filterMap_append, List.filterMap_cons_some hk] at h
  simpa using fun hfa : f a = some k =>
    (List.nodup_append.mp h).2.2 k (List.mem_filterMap.mpr ⟨a, ha, hfa⟩) k List.mem_cons_self rfl

theorem prefix_unique_of_filterMap_nodup {α κ : Type} [DecidableEq κ] {f : α → Option κ}
    {pre1 pre2 post1 post2 : List α} {x1 x2 : α} {k : κ} (h : ((pre1 ++ x1 :: post1).filterMap f).Nodup)
    (e : pre1 ++ x1 :: post1 = pre2 ++ x2 :: post2) (h1 : f x1 = some k) (h2 : f x2 = some k) :
    pre1 = pre2 := by
  rw [← takeWhile_of_filterMap_nodup h h1, e, takeWhile_of_filterMap_nodup (e ▸ h) h2]

theorem nodup_flatMap_elem {α β : Type} {f : α → List β} {l : List α} (h : (l.flatMap f).Nodup)
    {x : α} (hx : x ∈ l) : (f x).Nodup :=
  (List.pairwise_flatMap.mp h).1 x hx

theorem nodup_flatMap_idx {α β : Type} {f : α → List β} {l : List α} (h : (l.flatMap f).Nodup)
    {i j : Nat} {x y : α} {k : β} (hi : l[i]? = some x) (hj : l[j]? = some y) (hx : k ∈ f x)
    (hy : k ∈ f y) : i = j := by
  have hp := List.pairwise_iff_getElem.mp (List.pairwise_flatMap.mp h).2
  obtain ⟨hi', rfl⟩ := List.getElem?_eq_some_iff.mp hi
  obtain ⟨hj', rfl⟩ := List.getElem?_eq_some_iff.mp hj
  rcases Nat.lt_trichotomy i j with hlt | heq | hgt
  · exact absurd rfl (hp i j hi' hj' hlt k hx k hy)
  · exact heq
  · exact absurd rfl (hp j i hj' hi' hgt k hy k hx)

end Asphalt
