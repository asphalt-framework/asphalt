/- Cancellation of the block (`Cb.underCancel`, `effStack`) and cancellation arriving while the teardown is
running (`midStack`, `midEff`, namespace `Mid`): what the effective stack is in each case, and what it keeps of
the registered one (`Cb.key`). -/
import AsphaltModel.Context

namespace Asphalt

/-- Structural induction over forests of callbacks (`Cb` is nested through `List`), for facts about the registered
forest as data; facts about what runs follow the recursion of `runTeardown` instead (`stack_induction`). -/
theorem forest_induction {motive : List Cb → Prop}
    (nil : motive [])
    (cons : ∀ id p a body regs r rest, motive regs → motive rest →
      motive (Cb.mk id p a body regs r :: rest))
    (st : List Cb) : motive st :=
  Cb.rec_1 (motive_1 := fun c => ∀ rest, motive rest → motive (c :: rest)) (motive_2 := motive)
    (fun id p a body regs r ih rest hr => cons id p a body regs r rest ih hr) nil
    (fun _ rest ihc ihr => ihc rest ihr) st

theorem underCancelList_eq_map (st : List Cb) :
    Cb.underCancel.underCancelList st = st.map Cb.underCancel := by
  induction st with
  | nil => rw [Cb.underCancel.underCancelList, List.map_nil]
  | cons c cs ih => rw [Cb.underCancel.underCancelList, ih, List.map_cons]

theorem underCancel_sync (id : Nat) (p : Bool) (body : List BodyOp) (regs : List Cb) (r : Option Exc) :
    (Cb.mk id p false body regs r).underCancel =
      Cb.mk id p false body (regs.map Cb.underCancel) r := by
  rw [Cb.underCancel, underCancelList_eq_map]
  rfl

theorem underCancel_async (id : Nat) (p : Bool) (body : List BodyOp) (regs : List Cb) (r : Option Exc) :
    (Cb.mk id p true body regs r).underCancel = Cb.mk id p true [] [] (some .cancelled) := by
  rw [Cb.underCancel]
  rfl

theorem underCancel_raises_of_async (c : Cb) (h : c.isAsync = true) :
    c.underCancel.raises = some .cancelled := by
  obtain ⟨id, p, a, b, regs, r⟩ := c
  cases (h : a = true)
  rw [underCancel_async]
  rfl

def Cb.key (c : Cb) : Nat × Bool × Bool := (c.id, c.passExc, c.isAsync)

theorem underCancel_key (c : Cb) : c.underCancel.key = c.key := by
  obtain ⟨id, p, a, b, regs, r⟩ := c
  cases a
  · rw [underCancel_sync]; rfl
  · rw [underCancel_async]; rfl

theorem map_underCancel_key (st : List Cb) : (st.map Cb.underCancel).map Cb.key = st.map Cb.key := by
  rw [List.map_map]
  exact List.map_congr_left fun c _ => underCancel_key c

theorem isCancel_eq_true (be : BlockEnd) : be.isCancel = true ↔ be = .raised .cancelled := by
  cases be with
  | ret => simp [BlockEnd.isCancel]
  | raised e => cases e <;> simp [BlockEnd.isCancel]

theorem isCancel_eq_false (be : BlockEnd) (h : be ≠ .raised .cancelled) : be.isCancel = false := by
  cases hb : be.isCancel with
  | false => rfl
  | true => exact absurd ((isCancel_eq_true be).1 hb) h

theorem effStack_of_not_cancel (be : BlockEnd) (st : List Cb) (h : be.isCancel = false) :
    effStack be st = st := by
  rw [effStack, h]
  rfl

theorem effStack_cancelled (st : List Cb) :
    effStack (.raised .cancelled) st = st.map Cb.underCancel :=
  underCancelList_eq_map st

theorem effStack_cases (be : BlockEnd) (st : List Cb) :
    effStack be st = st ∨ effStack be st = st.map Cb.underCancel := by
  rw [effStack, underCancelList_eq_map]
  cases be.isCancel
  · exact Or.inl rfl
  · exact Or.inr rfl

theorem effStack_of_fixed (be : BlockEnd) (st : List Cb) (h : st.map Cb.underCancel = st) :
    effStack be st = st := by
  rcases effStack_cases be st with h' | h'
  · exact h'
  · rw [h', h]

theorem effStack_key (be : BlockEnd) (st : List Cb) : (effStack be st).map Cb.key = st.map Cb.key := by
  rcases effStack_cases be st with h | h <;> rw [h]
  exact map_underCancel_key st

namespace Mid

theorem midStack_nil (k : Nat) : midStack k [] = [] := rfl

theorem midStack_cons_hit (k : Nat) (p a : Bool) (body : List BodyOp) (regs : List Cb)
    (r : Option Exc) (rest : List Cb) :
    midStack k (Cb.mk k p a body regs r :: rest) =
      Cb.mk k p a body (regs.map Cb.underCancel) (if a then some .cancelled else r) ::
        rest.map Cb.underCancel := by
  rw [midStack, if_pos (show (Cb.mk k p a body regs r).id = k from rfl),
    underCancelList_eq_map, underCancelList_eq_map]

theorem midStack_cons_miss (k : Nat) (cb : Cb) (rest : List Cb) (h : cb.id ≠ k) :
    midStack k (cb :: rest) = cb :: midStack k rest := by
  obtain ⟨id, p, a, body, regs, r⟩ := cb
  rw [midStack, if_neg h]

theorem midStack_append_miss (k : Nat) (above rest : List Cb) (hab : ∀ cb ∈ above, cb.id ≠ k) :
    midStack k (above ++ rest) = above ++ midStack k rest := by
  induction above with
  | nil => rfl
  | cons c cs ih =>
    rw [List.cons_append, midStack_cons_miss k c _ (hab c List.mem_cons_self),
      ih fun d hd => hab d (List.mem_cons_of_mem _ hd), List.cons_append]

theorem midStack_induction (k : Nat) {motive : List Cb → List Cb → Prop}
    (nil : motive [] [])
    (hit : ∀ p a body regs r rest,
      motive (Cb.mk k p a body regs r :: rest)
        (Cb.mk k p a body (regs.map Cb.underCancel) (if a then some .cancelled else r) ::
          rest.map Cb.underCancel))
    (miss : ∀ cb rest, cb.id ≠ k → motive rest (midStack k rest) →
      motive (cb :: rest) (cb :: midStack k rest))
    (st : List Cb) : motive st (midStack k st) := by
  induction st with
  | nil => exact nil
  | cons c cs ih =>
    by_cases hc : c.id = k
    · obtain ⟨id, p, a, body, regs, r⟩ := c
      change id = k at hc
      subst hc
      rw [midStack_cons_hit]
      exact hit p a body regs r cs
    · rw [midStack_cons_miss k c cs hc]
      exact miss c cs hc ih

theorem midStack_of_fixed (k : Nat) (st : List Cb) (h : st.map Cb.underCancel = st)
    (hs : ∀ c ∈ st, c.isAsync = false) : midStack k st = st := by
  induction st using midStack_induction k with
  | nil => rfl
  | hit p a body regs r rest =>
    cases (hs _ List.mem_cons_self : a = false)
    rw [List.map_cons, underCancel_sync] at h
    exact h
  | miss cb rest _ ih =>
    rw [ih (List.tail_eq_of_cons_eq h) fun c hc => hs c (List.mem_cons_of_mem _ hc)]

theorem midEff_of_cancel (be : BlockEnd) (k : Nat) (st : List Cb) (h : be.isCancel = true) :
    midEff be k st = effStack be st := by
  rw [midEff, if_pos h]

theorem midEff_of_not_cancel (be : BlockEnd) (k : Nat) (st : List Cb) (h : be.isCancel = false) :
    midEff be k st = midStack k st := by
  rw [midEff, h]
  rfl

theorem midEff_cases (be : BlockEnd) (k : Nat) (st : List Cb) :
    be = .raised .cancelled ∨ (midEff be k st = midStack k st ∧ effStack be st = st) := by
  cases hb : be.isCancel with
  | true => exact Or.inl ((isCancel_eq_true be).1 hb)
  | false => exact Or.inr ⟨midEff_of_not_cancel be k st hb, effStack_of_not_cancel be st hb⟩

theorem hit_keeps (k : Nat) (p a : Bool) (body : List BodyOp) (regs : List Cb) (r : Option Exc) :
    let c' := Cb.mk k p a body (regs.map Cb.underCancel) (if a then some Exc.cancelled else r)
    c'.id = (Cb.mk k p a body regs r).id ∧ c'.passExc = (Cb.mk k p a body regs r).passExc ∧
      c'.isAsync = (Cb.mk k p a body regs r).isAsync :=
  ⟨rfl, rfl, rfl⟩

theorem midStack_key (k : Nat) (st : List Cb) : (midStack k st).map Cb.key = st.map Cb.key := by
  induction st using midStack_induction k with
  | nil => rfl
  | hit p a body regs r rest => rw [List.map_cons, map_underCancel_key]; rfl
  | miss cb rest _ ih => rw [List.map_cons, ih]; rfl

theorem midEff_key (be : BlockEnd) (k : Nat) (st : List Cb) :
    (midEff be k st).map Cb.key = st.map Cb.key := by
  rcases midEff_cases be k st with rfl | ⟨h, _⟩
  · exact effStack_key (.raised .cancelled) st
  · rw [h]
    exact midStack_key k st

/-- `c'` is callback `k` itself or, if a callback of the same id lies above it, its image in the cancelled scope. -/
theorem midStack_cancelled (k : Nat) (st : List Cb) (cb : Cb) (hm : cb ∈ st) (hk : cb.id = k)
    (ha : cb.isAsync = true) : ∃ c' ∈ midStack k st, c'.raises = some .cancelled := by
  induction st using midStack_induction k with
  | nil => cases hm
  | hit p a body regs r rest =>
    rcases List.mem_cons.1 hm with h | h
    · subst h
      cases (ha : a = true)
      exact ⟨_, List.mem_cons_self, rfl⟩
    · exact ⟨cb.underCancel, List.mem_cons_of_mem _ (List.mem_map_of_mem h),
        underCancel_raises_of_async cb ha⟩
  | miss c rest hc ih =>
    rcases List.mem_cons.1 hm with h | h
    · exact absurd (h ▸ hk) hc
    · obtain ⟨c', hm', h'⟩ := ih h
      exact ⟨c', List.mem_cons_of_mem _ hm', h'⟩

end Mid

end Asphalt
