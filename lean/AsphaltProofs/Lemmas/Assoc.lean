/- Insertion-ordered association lists (the model of a Python `dict`): what `alookup`, `akeys` and
`NoDupKeys` say after `ainsert`, `aerase`, `++`, `filter`; membership against lookup; extensionality. -/
import AsphaltModel.Basic
import AsphaltProofs.Lemmas.Lists

namespace Asphalt

variable {κ α : Type} [DecidableEq κ]

@[simp] theorem alookup_nil (k : κ) : alookup k ([] : List (κ × α)) = none := rfl

theorem alookup_cons (k k' : κ) (v : α) (l : List (κ × α)) :
    alookup k ((k', v) :: l) = if k' = k then some v else alookup k l := rfl

theorem ainsert_cons (k k' : κ) (v v' : α) (l : List (κ × α)) :
    ainsert k v ((k', v') :: l) = if k' = k then (k', v) :: l else (k', v') :: ainsert k v l := rfl

theorem aerase_cons (k k' : κ) (v' : α) (l : List (κ × α)) :
    aerase k ((k', v') :: l) = if k' = k then l else (k', v') :: aerase k l := rfl

omit [DecidableEq κ] in
@[simp] theorem akeys_cons (k : κ) (v : α) (l : List (κ × α)) : akeys ((k, v) :: l) = k :: akeys l := rfl

omit [DecidableEq κ] in
theorem akeys_append (l₁ l₂ : List (κ × α)) : akeys (l₁ ++ l₂) = akeys l₁ ++ akeys l₂ :=
  List.map_append

omit [DecidableEq κ] in
theorem mem_akeys_snoc {k k' : κ} {v : α} {l : List (κ × α)} :
    k ∈ akeys (l ++ [(k', v)]) ↔ k ∈ akeys l ∨ k = k' := by
  simp [akeys]

omit [DecidableEq κ] in
theorem NoDupKeys_nil : NoDupKeys ([] : List (κ × α)) := List.nodup_nil

omit [DecidableEq κ] in
theorem NoDupKeys_cons (k : κ) (v : α) (l : List (κ × α)) :
    NoDupKeys ((k, v) :: l) ↔ k ∉ akeys l ∧ NoDupKeys l := List.nodup_cons

omit [DecidableEq κ] in
theorem mem_akeys_of_mem (k : κ) (v : α) (l : List (κ × α)) (h : (k, v) ∈ l) : k ∈ akeys l :=
  List.mem_map.mpr ⟨(k, v), h, rfl⟩

theorem alookup_mem (k : κ) (v : α) (l : List (κ × α)) (h : alookup k l = some v) : (k, v) ∈ l := by
  fun_induction alookup k l with
  | case1 => cases h
  | case2 v' l => cases h; exact List.mem_cons_self
  | case3 k' v' l _ ih => exact List.mem_cons_of_mem _ (ih h)

theorem alookup_none_iff (k : κ) (l : List (κ × α)) : alookup k l = none ↔ k ∉ akeys l := by
  fun_induction alookup k l with
  | case1 => simp [akeys]
  | case2 v l => simp
  | case3 k' v l hne ih => simp [ih, Ne.symm hne]

theorem alookup_isSome_iff (k : κ) (l : List (κ × α)) : (alookup k l).isSome ↔ k ∈ akeys l := by
  rw [← Decidable.not_iff_not, ← alookup_none_iff]; simp

theorem acontains_false_iff (k : κ) (l : List (κ × α)) : acontains k l = false ↔ alookup k l = none := by
  simp [acontains]

theorem alookup_of_mem (k : κ) (v : α) (l : List (κ × α)) (hnd : NoDupKeys l) (h : (k, v) ∈ l) :
    alookup k l = some v := by
  induction l with
  | nil => cases h
  | cons p l ih =>
    obtain ⟨k', v'⟩ := p
    rw [NoDupKeys_cons] at hnd
    rw [alookup_cons]
    rcases List.mem_cons.mp h with e | hm
    · cases e; rw [if_pos rfl]
    · rw [if_neg (fun e : k' = k => hnd.1 (e ▸ mem_akeys_of_mem k v l hm)), ih hnd.2 hm]

theorem assoc_ext {l₁ l₂ : List (κ × α)} (hk : akeys l₁ = akeys l₂) (h₁ : NoDupKeys l₁)
    (hl : ∀ k ∈ akeys l₁, alookup k l₁ = alookup k l₂) : l₁ = l₂ := by
  induction l₁ generalizing l₂ with
  | nil => cases l₂ with
    | nil => rfl
    | cons q l₂ => cases hk
  | cons p l₁ ih =>
    cases l₂ with
    | nil => cases hk
    | cons q l₂ =>
      obtain ⟨k₁, v₁⟩ := p
      obtain ⟨k₂, v₂⟩ := q
      obtain ⟨rfl, hkt⟩ := List.cons.inj hk
      rw [NoDupKeys_cons] at h₁
      have hv := hl k₁ List.mem_cons_self
      rw [alookup_cons, alookup_cons, if_pos rfl, if_pos rfl] at hv
      cases hv
      rw [ih hkt h₁.2]
      intro k hmem
      have := hl k (List.mem_cons_of_mem _ hmem)
      have hne : ¬ k₁ = k := fun e => h₁.1 (e ▸ hmem)
      rwa [alookup_cons, alookup_cons, if_neg hne, if_neg hne] at this

/-! ### `ainsert` -/

theorem alookup_ainsert_same (k : κ) (v : α) (l : List (κ × α)) :
    alookup k (ainsert k v l) = some v := by
  fun_induction ainsert k v l with
  | case1 => exact if_pos rfl
  | case2 v' l => exact if_pos rfl
  | case3 k' v' l hne ih => exact (if_neg hne).trans ih

theorem alookup_ainsert_other (k k' : κ) (v : α) (l : List (κ × α)) (h : k' ≠ k) :
    alookup k (ainsert k' v l) = alookup k l := by
  fun_induction ainsert k' v l with
  | case1 => exact if_neg h
  | case2 v' l => exact (if_neg h).trans (if_neg h).symm
  | case3 k'' v' l _ ih => rw [alookup_cons, alookup_cons, ih]

theorem alookup_ainsert (k k' : κ) (v : α) (l : List (κ × α)) :
    alookup k (ainsert k' v l) = if k' = k then some v else alookup k l := by
  split
  next h => rw [h, alookup_ainsert_same]
  next h => exact alookup_ainsert_other k k' v l h

theorem alookup_ainsert_eq_some {k k' : κ} {v w : α} {l : List (κ × α)}
    (h : alookup k (ainsert k' v l) = some w) : (k' = k ∧ v = w) ∨ (k' ≠ k ∧ alookup k l = some w) := by
  rw [alookup_ainsert] at h
  by_cases hk : k' = k
  · rw [if_pos hk] at h; exact .inl ⟨hk, Option.some.inj h⟩
  · rw [if_neg hk] at h; exact .inr ⟨hk, h⟩

theorem alookup_ainsert_ne_none {k k' : κ} {v : α} {l : List (κ × α)} :
    alookup k (ainsert k' v l) ≠ none ↔ k' = k ∨ alookup k l ≠ none := by
  rw [alookup_ainsert]
  by_cases hk : k' = k <;> simp [hk]

theorem ainsert_of_not_mem (k : κ) (v : α) (l : List (κ × α)) (h : k ∉ akeys l) :
    ainsert k v l = l ++ [(k, v)] := by
  fun_induction ainsert k v l with
  | case1 => rfl
  | case2 v' l => exact absurd List.mem_cons_self h
  | case3 k' v' l _ ih => rw [ih fun hm => h (List.mem_cons_of_mem _ hm), List.cons_append]

theorem akeys_ainsert_mem (k : κ) (v : α) (l : List (κ × α)) (h : k ∈ akeys l) :
    akeys (ainsert k v l) = akeys l := by
  fun_induction ainsert k v l with
  | case1 => cases h
  | case2 v' l => rfl
  | case3 k' v' l hne ih =>
    rw [akeys_cons, akeys_cons, ih ((List.mem_cons.mp h).resolve_left (Ne.symm hne))]

theorem akeys_ainsert_not_mem (k : κ) (v : α) (l : List (κ × α)) (h : k ∉ akeys l) :
    akeys (ainsert k v l) = akeys l ++ [k] := by
  rw [ainsert_of_not_mem k v l h, akeys_append]; rfl

theorem NoDupKeys_ainsert (k : κ) (v : α) (l : List (κ × α)) (h : NoDupKeys l) :
    NoDupKeys (ainsert k v l) := by
  unfold NoDupKeys at *
  by_cases hk : k ∈ akeys l
  · rwa [akeys_ainsert_mem k v l hk]
  · rw [akeys_ainsert_not_mem k v l hk]; exact nodup_snoc h hk

theorem mem_of_mem_ainsert (k : κ) (v : α) (l : List (κ × α)) (p : κ × α) (h : p ∈ ainsert k v l) :
    p = (k, v) ∨ p ∈ l := by
  fun_induction ainsert k v l with
  | case1 => exact .inl (List.mem_singleton.mp h)
  | case2 v' l => exact (List.mem_cons.mp h).imp_right (List.mem_cons_of_mem _)
  | case3 k' v' l _ ih =>
    exact (List.mem_cons.mp h).elim (fun e => .inr (e ▸ List.mem_cons_self))
      fun hm => (ih hm).imp_right (List.mem_cons_of_mem _)

theorem ainsert_self (k : κ) (v : α) (l : List (κ × α)) (h : alookup k l = some v) :
    ainsert k v l = l := by
  fun_induction ainsert k v l with
  | case1 => cases h
  | case2 v' l => rw [alookup_cons, if_pos rfl] at h; cases h; rfl
  | case3 k' v' l hne ih => rw [alookup_cons, if_neg hne] at h; rw [ih h]

theorem ainsert_ainsert (k : κ) (v v' : α) (l : List (κ × α)) :
    ainsert k v (ainsert k v' l) = ainsert k v l := by
  induction l with
  | nil => simp [ainsert]
  | cons p l ih =>
    obtain ⟨k', w⟩ := p
    by_cases hk : k' = k <;> simp [ainsert_cons, hk, ih]

theorem ainsert_append_singleton (k : κ) (v v' : α) (l : List (κ × α)) (h : k ∉ akeys l) :
    ainsert k v (l ++ [(k, v')]) = l ++ [(k, v)] := by
  rw [← ainsert_of_not_mem k v' l h, ainsert_ainsert, ainsert_of_not_mem k v l h]

/-! ### `aerase` -/

theorem alookup_aerase_other (k k' : κ) (l : List (κ × α)) (h : k' ≠ k) :
    alookup k (aerase k' l) = alookup k l := by
  fun_induction aerase k' l with
  | case1 => rfl
  | case2 v l => exact (if_neg h).symm
  | case3 k'' v l _ ih => rw [alookup_cons, alookup_cons, ih]

theorem alookup_aerase_same (k : κ) (l : List (κ × α)) (h : NoDupKeys l) :
    alookup k (aerase k l) = none := by
  fun_induction aerase k l with
  | case1 => rfl
  | case2 v l => exact (alookup_none_iff _ _).mpr ((NoDupKeys_cons ..).mp h).1
  | case3 k' v l hne ih => rw [alookup_cons, if_neg hne, ih ((NoDupKeys_cons ..).mp h).2]

theorem aerase_ainsert_comm (k k' : κ) (v : α) (l : List (κ × α)) (hne : k ≠ k') :
    aerase k' (ainsert k v l) = ainsert k v (aerase k' l) := by
  fun_induction ainsert k v l with
  | case1 => rw [aerase_cons, if_neg hne]; rfl
  | case2 v' l => rw [aerase_cons, aerase_cons, if_neg hne, if_neg hne, ainsert_cons, if_pos rfl]
  | case3 k'' v' l h ih =>
    rw [aerase_cons, aerase_cons]
    split
    · rfl
    · rw [ainsert_cons, if_neg h, ih]

theorem aerase_ainsert_same (k : κ) (v : α) (l : List (κ × α)) :
    aerase k (ainsert k v l) = aerase k l := by
  induction l with
  | nil => simp [ainsert, aerase]
  | cons p l ih =>
    obtain ⟨k', v'⟩ := p
    by_cases h : k' = k <;> simp [ainsert_cons, aerase_cons, h, ih]

/-! ### `++`, `filter`, constant lists -/

theorem alookup_append (k : κ) (l₁ l₂ : List (κ × α)) :
    alookup k (l₁ ++ l₂) = (alookup k l₁).orElse fun _ => alookup k l₂ := by
  fun_induction alookup k l₁ with
  | case1 => rfl
  | case2 v l => exact if_pos rfl
  | case3 k' v l h ih => exact (if_neg h).trans ih

theorem alookup_map_const (k : κ) (v : α) (ks : List κ) :
    alookup k (ks.map (fun k' => (k', v))) = if k ∈ ks then some v else none := by
  induction ks with
  | nil => rfl
  | cons a ks ih =>
    rw [List.map_cons, alookup_cons, ih]
    by_cases h : a = k
    · simp [h]
    · simp [h, Ne.symm h]

omit [DecidableEq κ] in
theorem NoDupKeys_filter (p : κ × α → Bool) (l : List (κ × α)) (h : NoDupKeys l) :
    NoDupKeys (l.filter p) :=
  List.Nodup.sublist (List.Sublist.map _ List.filter_sublist) h

theorem alookup_filter_none (p : κ × α → Bool) (k : κ) (l : List (κ × α))
    (h : alookup k l = none) : alookup k (l.filter p) = none := by
  rw [alookup_none_iff] at *
  exact fun hm => h ((List.filter_sublist.map _).subset hm)

theorem alookup_filter_some (p : κ × α → Bool) (k : κ) (v : α) (l : List (κ × α))
    (h : alookup k l = some v) (hp : p (k, v) = true) : alookup k (l.filter p) = some v := by
  fun_induction alookup k l with
  | case1 => cases h
  | case2 v' l => cases h; rw [List.filter_cons_of_pos hp, alookup_cons, if_pos rfl]
  | case3 k' v' l hk ih =>
    by_cases hq : p (k', v') = true
    · rw [List.filter_cons_of_pos hq, alookup_cons, if_neg hk]; exact ih h
    · rw [List.filter_cons_of_neg hq]; exact ih h

theorem alookup_filter_inv (p : κ × α → Bool) (k : κ) (v : α) (l : List (κ × α))
    (hnd : NoDupKeys l) (h : alookup k (l.filter p) = some v) :
    alookup k l = some v ∧ p (k, v) = true := by
  have hm := List.mem_filter.mp (alookup_mem k v _ h)
  exact ⟨alookup_of_mem k v l hnd hm.1, hm.2⟩

end Asphalt
