/- The service-task LTS (AsphaltModel/Tasks.lean). A step from a crash-free state is a visible part (`Core`,
`tstep_core`) followed by the host's silent moves (`normalize_moves`), and both are sequences of a few
elementary moves (`Mv`): an invariant of crash-free runs is proved by showing that every `Mv` keeps it
(`exec_moves`); so `Inv`, `Inv2`. Then what the set-up program leaves in `TSt.init`, and what an accepted `cbRun` or
`blockLeft` finds in a reachable state (`cbRun_closed`, `blockLeft_closed`: the C08 waiting theorems). -/
import AsphaltModel.Tasks
import AsphaltProofs.Lemmas.Assoc

namespace Asphalt
namespace Tk

/-- `(s.setStatus tid st).statusOf t` unfolds to `alookup t (ainsert tid st s.status)`: below, the `alookup_ainsert_*`
lemmas of Assoc.lean are applied to hypotheses about the former as they stand. -/
theorem statusOf_setStatus (s : TSt) (tid t : Nat) (st : TStatus) :
    (s.setStatus tid st).statusOf t = if tid = t then some st else s.statusOf t :=
  alookup_ainsert t tid st s.status

/-- A move keeps only what the invariants below speak of: the flags and `excs` may become anything, and what is
appended to the history (`h`) is only known to contain no call of a teardown callable. The history is given as
`hh` with `hh = s.hist ++ h` so that a silent move is a move with `h = []` without rewriting `s.hist ++ []`.
`popCbLate` says what it logs: `Inv2.late_ran` needs the `cbRun` label. -/
inductive Mv (s : TSt) : TSt → Prop
  | set (tid : Nat) (st st' : TStatus) (hh h : List TLab) :
      hh = s.hist ++ h → (∀ t, TLab.actionCalled t ∉ h) →
      s.statusOf tid = some st → (∀ e, st ≠ .closed e) →
      (st' = .cancelAsked → ∃ sp, s.spec? tid = some sp ∧
        (sp.action = .cancel ∨ sp.action = .callable true)) →
      Mv s { s.setStatus tid st' with hist := hh }
  | flags (b1 b2 b3 : Bool) (hh h : List TLab) :
      hh = s.hist ++ h → (∀ t, TLab.actionCalled t ∉ h) →
      Mv s { s with exiting := b1, left := b2, reported := b3, hist := hh }
  | popCb (id : Nat) (r : Option Nat) (rest : List Item) (ex : List Nat) (hh h : List TLab) :
      hh = s.hist ++ h → (∀ t, TLab.actionCalled t ∉ h) →
      s.waitingFor = none → s.stack = .cb id r :: rest →
      Mv s { s with stack := rest, excs := ex, hist := hh }
  | popCbLate (id : Nat) (r : Option Nat) (rest : List Item) (ex : List Nat) (tid : Nat) :
      s.waitingFor = none → s.stack = .cb id r :: rest →
      alookup id s.lates = some tid → s.statusOf tid = none →
      Mv s { s.setStatus tid .running with
        stack := .fin tid :: rest, excs := ex, hist := s.hist ++ [.cbRun id] }
  | popFin (tid : Nat) (e : Option Nat) :
      s.waitingFor = some tid → s.statusOf tid = some (.closed e) →
      Mv s { s with waitingFor := none, stack := s.stack.filter (· != Item.fin tid) }
  | act (tid : Nat) (rest : List Item) (sp : TaskSpec) (hh : List TLab) :
      s.waitingFor = none → s.stack = .fin tid :: rest → s.spec? tid = some sp →
      (((sp.action = .cancel ∨ sp.action = .none_) ∧ hh = s.hist) ∨
        ((∃ r, sp.action = .callable r) ∧ tid ∉ s.acted ∧ hh = s.hist ++ [.actionCalled tid])) →
      Mv s { s with waitingFor := some tid, acted := tid :: s.acted, hist := hh }

theorem Mv.frame (s s' : TSt) (h : Mv s s') :
    s'.specs = s.specs ∧ s'.snaps = s.snaps ∧ s'.lates = s.lates ∧ s'.crashed = s.crashed := by
  cases h <;> exact ⟨rfl, rfl, rfl, rfl⟩

theorem Mv.status_some (s s' : TSt) (h : Mv s s') (t : Nat) (hs : s.statusOf t ≠ none) :
    s'.statusOf t ≠ none := by
  cases h with
  | set tid st st' hh h hhe hnh hst hncl hask => exact alookup_ainsert_ne_none.mpr (.inr hs)
  | popCbLate id r rest ex tid hw hstk hla hst => exact alookup_ainsert_ne_none.mpr (.inr hs)
  | _ => exact hs

theorem normalize_moves (P : TSt → Prop) (hP : ∀ s s', P s → Mv s s' → P s')
    (n : Nat) (s : TSt) : P s → P (s.normalize n) := by
  -- along the recursion of `normalize`: three paths make a move and go on, the others stop
  fun_induction TSt.normalize n s with
  | case3 fuel s _ tid hw e hst ih => exact fun h => ih (hP _ _ h (.popFin tid e hw hst))
  | case5 fuel s _ hw tid rest hstk sp hsp hact s1 ih =>
    intro h
    have ask : ∀ st, s.statusOf tid = some st → (∀ e, st ≠ .closed e) → P (s.setStatus tid .cancelAsked) :=
      fun st hst hn => hP _ _ h
        (.set tid st _ s.hist [] (by simp) (by simp) hst hn fun _ => ⟨sp, hsp, .inl hact⟩)
    have h1 : P s1 ∧ s1.waitingFor = none ∧ s1.stack = .fin tid :: rest ∧ s1.spec? tid = some sp := by
      simp only [s1]
      split
      · exact ⟨ask _ ‹_› (by simp), hw, hstk, hsp⟩
      · exact ⟨ask _ ‹_› (by simp), hw, hstk, hsp⟩
      · exact ⟨h, hw, hstk, hsp⟩
    exact ih (hP _ _ h1.1 (.act tid rest sp _ h1.2.1 h1.2.2.1 h1.2.2.2 (.inl ⟨.inl hact, rfl⟩)))
  | case6 fuel s _ hw tid rest hstk sp hsp hact ih =>
    exact fun h => ih (hP _ _ h (.act tid rest sp _ hw hstk hsp (.inl ⟨.inr hact, rfl⟩)))
  | _ => exact id

theorem normalize_crashed (n : Nat) (s : TSt) : (s.normalize n).crashed = s.crashed :=
  normalize_moves (fun t => t.crashed = s.crashed) (fun a b h hm => (Mv.frame a b hm).2.2.2.trans h) n s rfl

theorem normalize_status_some (n : Nat) (s : TSt) (t : Nat) (h : s.statusOf t ≠ none) :
    (s.normalize n).statusOf t ≠ none :=
  normalize_moves (fun x => x.statusOf t ≠ none) (fun a b ha hm => Mv.status_some a b hm t ha) n s h

/-- The visible part of a step in normal mode, as far as the invariants and the C08 theorems need it. Forgotten,
so not derivable through `tstep_core`: which exception a task may end with (the table of status against behaviour
in `tstep?`), how long a clean-up takes (`c` in `cancelSeen`) and what a callback adds to `excs` (`ex`). -/
inductive Core (s : TSt) : TLab → TSt → Prop
  | taskEnded (tid : Nat) (st : TStatus) : s.statusOf tid = some st → (∀ e, st ≠ .closed e) →
      Core s (.taskEnded tid none)
        { s.setStatus tid (.ended none) with hist := s.hist ++ [.taskEnded tid none] }
  | taskEndedExc (tid e : Nat) (st : TStatus) : s.statusOf tid = some st → (∀ e, st ≠ .closed e) →
      Core s (.taskEnded tid (some e))
        { s.setStatus tid (.ended (some e)) with
          crashed := s.crashed ++ [e], hist := s.hist ++ [.taskEnded tid (some e)] }
  | taskClosed (tid : Nat) (e : Option Nat) : s.statusOf tid = some (.ended e) →
      Core s (.taskClosed tid) { s.setStatus tid (.closed e) with hist := s.hist ++ [.taskClosed tid] }
  | exitBegin : s.exiting = false →
      Core s .exitBegin { s with exiting := true, hist := s.hist ++ [.exitBegin] }
  | cbRun (id : Nat) (r : Option Nat) (rest : List Item) (ex : List Nat) : s.exiting = true →
      s.waitingFor = none → s.stack = .cb id r :: rest →
      (alookup id s.lates = none ∨ ∃ tid st, alookup id s.lates = some tid ∧ s.statusOf tid = some st) →
      Core s (.cbRun id) { s with stack := rest, excs := ex, hist := s.hist ++ [.cbRun id] }
  | cbRunLate (id : Nat) (r : Option Nat) (rest : List Item) (ex : List Nat) (tid : Nat) :
      s.exiting = true → s.waitingFor = none → s.stack = .cb id r :: rest →
      alookup id s.lates = some tid → s.statusOf tid = none →
      Core s (.cbRun id) { s.setStatus tid .running with
        stack := .fin tid :: rest, excs := ex, hist := s.hist ++ [.cbRun id] }
  | lateStarted (tid : Nat) : s.exiting = true → s.statusOf tid ≠ none →
      (∃ cb, (cb, tid) ∈ s.lates) →
      Core s (.lateStarted tid) { s with hist := s.hist ++ [.lateStarted tid] }
  | actionCalled (tid : Nat) (rest : List Item) (sp : TaskSpec) (raises : Bool) (s1 : TSt) :
      s.exiting = true → s.waitingFor = none → tid ∉ s.acted → s.stack = .fin tid :: rest →
      s.spec? tid = some sp → sp.action = .callable raises →
      (s1 = s ∨ (s.statusOf tid = some .running ∧
        s1 = s.setStatus tid (if raises then .cancelAsked else .stopAsked))) →
      Core s (.actionCalled tid)
        { s1 with waitingFor := some tid, acted := tid :: s1.acted, hist := s.hist ++ [.actionCalled tid] }
  | cancelSeen (tid : Nat) (sp : TaskSpec) (c : Nat) : s.spec? tid = some sp →
      s.statusOf tid = some .cancelAsked →
      Core s (.cancelSeen tid) { s.setStatus tid (.cancelling c) with hist := s.hist ++ [.cancelSeen tid] }
  | cleanupTick (tid : Nat) (n : Nat) : s.statusOf tid = some (.cancelling (n + 1)) →
      Core s (.cleanupTick tid) { s.setStatus tid (.cancelling n) with hist := s.hist ++ [.cleanupTick tid] }
  | blockLeft : s.exiting = true → s.stack = [] → s.waitingFor = none → s.left = false →
      Core s .blockLeft { s with left := true, hist := s.hist ++ [.blockLeft] }
  | taskSaw (tid : Nat) (vals : List Nat) : alookup tid s.snaps = some vals →
      Core s (.taskSaw tid vals) { s with hist := s.hist ++ [.taskSaw tid vals] }
  | outcome (leaves : List Nat) : s.left = true → leaves = s.excs →
      Core s (.outcome leaves) { s with reported := true, hist := s.hist ++ [.outcome leaves] }

theorem tstep_reported (s s' : TSt) (l : TLab) (h : tstep? s l = some s') : ¬ s.reported = true := by
  intro hx
  unfold tstep? at h
  simp [hx] at h

theorem tstep_crashed (s s' : TSt) (l : TLab) (hc : s.crashed ≠ []) (h : tstep? s l = some s') :
    s'.crashed ≠ [] ∧
      ∀ leaves, l = .outcome leaves → s.crashed.all (fun e => leaves.contains e) = true := by
  have hr := tstep_reported s s' l h
  have hne : (!s.crashed.isEmpty) = true := by
    cases hx : s.crashed with
    | nil => exact absurd hx hc
    | cons a b => rfl
  have key : ∀ (n : Nat) (t : TSt), some (t.normalize n) = some s' → t.crashed ≠ [] →
      s'.crashed ≠ [] := by
    intro n t he ht
    cases he
    rw [normalize_crashed n t]; exact ht
  unfold tstep? at h
  dsimp only at h
  rw [if_neg hr, if_pos hne] at h
  split at h
  · obtain ⟨hcond, h⟩ := Option.ite_none_right_eq_some.mp h
    refine ⟨key _ _ h hc, fun leaves hl => ?_⟩
    cases hl
    exact (Bool.and_eq_true _ _ ▸ hcond).2
  · exact ⟨key _ _ h hc, nofun⟩
  · exact ⟨key _ _ h (by simp), nofun⟩
  · rename_i hno _ _
    exact ⟨key _ _ h hc, fun leaves hl => absurd hl (hno leaves)⟩

/-- `tstep?` read once from a crash-free state, on the side of the goal: one case for every path through `tstep?`,
numbered from top to bottom, the tests on the way in the context. -/
theorem tstep_spec (s : TSt) (l : TLab) (hcr : s.crashed = []) :
    (tstep? s l).elim True fun s' => ∃ s1 n, Core s l s1 ∧ s' = s1.normalize n := by
  have hie : s.crashed.isEmpty = true := by rw [hcr]; rfl
  have hne : ¬ (!s.crashed.isEmpty) = true := by rw [hie]; simp
  fun_cases tstep? s l with
  -- the paths on which a test `!s.crashed.isEmpty` succeeded
  | case2 | case4 | case5 | case6 | case14 | case19 | case25 | case29 | case31 =>
    exact absurd ‹(!s.crashed.isEmpty) = true› hne
  | case42 => exact absurd hie ‹_›
  | case7 _ _ tid exc sp st hst hsp ok hok s1 =>
    have hncl : ∀ e, st ≠ .closed e := by intro e he; subst he; simp [ok] at hok
    cases exc with
    | none => exact ⟨_, _, Core.taskEnded tid st hst hncl, rfl⟩
    | some e => exact ⟨_, _, Core.taskEndedExc tid e st hst hncl, rfl⟩
  | case10 _ _ tid e hst => exact ⟨_, _, Core.taskClosed tid e hst, rfl⟩
  | case12 _ _ hc => exact ⟨_, _, Core.exitBegin (by simpa [hie] using hc), rfl⟩
  | case15 _ _ id _ hc id' r rest hstk hid s1 =>
    simp only [Bool.and_eq_true, Option.isNone_iff_eq_none] at hc
    cases beq_iff_eq.mp hid
    split
    next tid hla =>
      split
      next hst => exact ⟨_, _, Core.cbRunLate id r rest _ tid hc.1 hc.2 hstk hla hst, rfl⟩
      next st hst => exact ⟨_, _, Core.cbRun id r rest _ hc.1 hc.2 hstk (.inr ⟨tid, st, hla, hst⟩), rfl⟩
    next hla => exact ⟨_, _, Core.cbRun id r rest _ hc.1 hc.2 hstk (.inl hla), rfl⟩
  | case20 _ _ tid _ hc tid' rest sp hsp hstk raises hact hid s1 =>
    simp only [Bool.and_eq_true, Option.isNone_iff_eq_none, Bool.not_eq_true', List.contains_eq_mem,
      decide_eq_false_iff_not] at hc
    cases beq_iff_eq.mp hid
    refine ⟨_, _, Core.actionCalled tid rest sp raises s1 hc.1.1 hc.1.2 hc.2 hstk hsp hact ?_, rfl⟩
    simp only [s1]
    split
    · exact .inr ⟨‹_›, rfl⟩
    · exact .inl rfl
  | case26 _ _ tid _ sp hst hsp => exact ⟨_, _, Core.cancelSeen tid sp _ hsp hst, rfl⟩
  | case28 _ _ tid n hst => exact ⟨_, _, Core.cleanupTick tid n hst, rfl⟩
  | case32 _ _ _ hc =>
    simp only [Bool.and_eq_true, Option.isNone_iff_eq_none, Bool.not_eq_true', List.isEmpty_iff] at hc
    exact ⟨_, _, Core.blockLeft hc.1.1.1 hc.1.1.2 hc.1.2 hc.2, rfl⟩
  | case34 _ _ tid hc =>
    simp only [Bool.and_eq_true, List.any_eq_true, beq_iff_eq, Option.isSome_iff_ne_none] at hc
    obtain ⟨⟨hexi, hsome⟩, ⟨cb, t⟩, hmem, rfl⟩ := hc
    exact ⟨_, _, Core.lateStarted t hexi hsome ⟨cb, hmem⟩, rfl⟩
  | case36 _ _ tid vals want hw hv =>
    cases beq_iff_eq.mp hv
    exact ⟨_, _, Core.taskSaw tid vals hw, rfl⟩
  | case40 _ _ leaves hl _ hv =>
    exact ⟨_, _, Core.outcome leaves (by simpa using hl) (beq_iff_eq.mp hv), rfl⟩
  | _ => trivial

theorem tstep_core (s s' : TSt) (l : TLab) (h : tstep? s l = some s') (hcr : s.crashed = []) :
    ∃ s1 n, Core s l s1 ∧ s' = s1.normalize n := by
  have := tstep_spec s l hcr
  rwa [h] at this


theorem tstep_crashed_nil (s s' : TSt) (l : TLab) (h : tstep? s l = some s')
    (hc : s'.crashed = []) : s.crashed = [] :=
  Decidable.byContradiction fun hne => (tstep_crashed s s' l hne h).1 hc

theorem tstep_crashed_keep (s s' : TSt) (l : TLab) (h : tstep? s l = some s') (hcr : s.crashed = [])
    (hl : ∀ tid e, l ≠ .taskEnded tid (some e)) : s'.crashed = [] := by
  obtain ⟨s1, n, hcore, rfl⟩ := tstep_core s s' l h hcr
  rw [normalize_crashed n s1]
  cases hcore with
  | taskEndedExc tid e => exact absurd rfl (hl tid e)
  | actionCalled _ _ _ _ _ _ _ _ _ _ _ hs1 => rcases hs1 with rfl | ⟨_, rfl⟩ <;> exact hcr
  | _ => exact hcr

theorem core_moves (P : TSt → Prop) (hP : ∀ s s', P s → Mv s s' → P s') (s s' : TSt) (l : TLab)
    (hc : Core s l s') (hcr : s'.crashed = []) (h : P s) : P s' := by
  cases hc with
  | taskEndedExc tid e st hst hncl => simp at hcr
  | taskEnded tid st hst hncl =>
    exact hP _ _ h (Mv.set tid st _ _ [_] rfl (by simp) hst hncl (by simp))
  | exitBegin hex =>
    exact hP _ _ h (Mv.flags true s.left s.reported _ [_] rfl (by simp))
  | cbRun id r rest ex hex hw hstk _ =>
    exact hP _ _ h (Mv.popCb id r rest ex _ [_] rfl (by simp) hw hstk)
  | cbRunLate id r rest ex tid hex hw hstk hla hst =>
    exact hP _ _ h (Mv.popCbLate id r rest ex tid hw hstk hla hst)
  | actionCalled tid rest sp raises s1 hex hw hna hstk hsp hact hs1 =>
    rcases hs1 with hs1 | ⟨hst, hs1⟩
    · subst hs1
      exact hP _ _ h (Mv.act tid rest sp _ hw hstk hsp (Or.inr ⟨⟨_, hact⟩, hna, rfl⟩))
    · subst hs1
      have h1 : P (s.setStatus tid (if raises then .cancelAsked else .stopAsked)) :=
        hP _ _ h (Mv.set tid _ _ s.hist [] (by simp) (by simp) hst (by simp)
          (by
            intro hca
            cases raises with
            | false => simp at hca
            | true => exact ⟨sp, hsp, Or.inr hact⟩))
      exact hP _ _ h1 (Mv.act tid rest sp _ hw hstk hsp (Or.inr ⟨⟨_, hact⟩, hna, rfl⟩))
  | blockLeft =>
    exact hP _ _ h (Mv.flags s.exiting true s.reported _ [_] rfl (by simp))
  | outcome leaves hl hv =>
    exact hP _ _ h (Mv.flags s.exiting s.left true _ [_] rfl (by simp))
  | taskClosed tid _ hst | cancelSeen tid _ _ _ hst | cleanupTick tid _ hst =>
    exact hP _ _ h (Mv.set tid _ _ _ [_] rfl (by simp) hst (by simp) (by simp))
  -- `lateStarted`, `taskSaw`: only the label is logged
  | _ => exact hP _ _ h (Mv.flags s.exiting s.left s.reported _ [_] rfl (by simp))

theorem tstep_moves (P : TSt → Prop) (hP : ∀ s s', P s → Mv s s' → P s') (s s' : TSt) (l : TLab)
    (h : tstep? s l = some s') (hc : s'.crashed = []) (hs : P s) : P s' := by
  obtain ⟨s1, n, hcore, rfl⟩ := tstep_core s s' l h (tstep_crashed_nil s s' l h hc)
  rw [normalize_crashed n s1] at hc
  exact normalize_moves P hP n s1 (core_moves P hP s s1 l hcore hc hs)

theorem exec_crashed_nil (s s' : TSt) (ls : List TLab) (h : TExec s ls s')
    (hc : s'.crashed = []) : s.crashed = [] := by
  induction h with
  | nil s => exact hc
  | cons a b c l ls hs _ ih => exact tstep_crashed_nil _ _ _ hs (ih hc)

theorem exec_moves (P : TSt → Prop) (hP : ∀ s s', P s → Mv s s' → P s') (s0 s : TSt)
    (ls : List TLab) (h : TExec s0 ls s) (h0 : P s0) (hc : s.crashed = []) : P s := by
  induction h with
  | nil s => exact h0
  | cons s s' s'' l ls hstep _ ih =>
    rename_i hex
    have hc' : s'.crashed = [] := exec_crashed_nil _ _ _ hex hc
    exact ih (tstep_moves P hP s s' l hstep hc' h0) hc

theorem taccept_exec (ls : List TLab) (s s' : TSt) (n : Nat) (h : taccept s ls n = .ok s') :
    TExec s ls s' := by
  induction ls generalizing s n with
  | nil =>
    unfold taccept at h
    injection h with h
    subst h
    exact TExec.nil s
  | cons l ls ih =>
    unfold taccept at h
    split at h
    · rename_i s1 hs1
      exact TExec.cons s s1 s' l ls hs1 (ih s1 (n + 1) h)
    · exact absurd h (by simp)

/-! ### the invariants of crash-free runs -/

/-- Calls of teardown callables in the history against the book-keeping `acted`. -/
structure Called (acted : List Nat) (spec? : Nat → Option TaskSpec) (hist : List TLab) : Prop where
  acted_called : ∀ tid sp r, tid ∈ acted → spec? tid = some sp → sp.action = .callable r →
    TLab.actionCalled tid ∈ hist
  called_acted : ∀ tid, TLab.actionCalled tid ∈ hist →
    tid ∈ acted ∧ ∃ sp r, spec? tid = some sp ∧ sp.action = .callable r
  count : ∀ tid, hist.count (TLab.actionCalled tid) ≤ 1

theorem Called.append {acted : List Nat} {spec? : Nat → Option TaskSpec} {hist : List TLab}
    (hc : Called acted spec? hist) (h : List TLab) (hn : ∀ t, TLab.actionCalled t ∉ h) :
    Called acted spec? (hist ++ h) where
  acted_called t sp r ha hsp hact := List.mem_append_left _ (hc.acted_called t sp r ha hsp hact)
  called_acted t ht := (List.mem_append.mp ht).elim (hc.called_acted t) (fun ht => absurd ht (hn t))
  count t := by rw [List.count_append, List.count_eq_zero.mpr (hn t)]; exact hc.count t

theorem Called.cons_silent {acted : List Nat} {spec? : Nat → Option TaskSpec} {hist : List TLab}
    (hc : Called acted spec? hist) (tid : Nat)
    (hno : ∀ sp r, spec? tid = some sp → sp.action ≠ .callable r) : Called (tid :: acted) spec? hist where
  acted_called t sp r ha hsp hact := by
    rcases List.mem_cons.mp ha with rfl | ha
    · exact absurd hact (hno sp r hsp)
    · exact hc.acted_called t sp r ha hsp hact
  called_acted t ht := (hc.called_acted t ht).imp_left (List.mem_cons_of_mem _)
  count := hc.count

/-- Acting on a task by calling its callable: it has not been acted on so far, so not called so far. -/
theorem Called.cons_called {acted : List Nat} {spec? : Nat → Option TaskSpec} {hist : List TLab}
    (hc : Called acted spec? hist) (tid : Nat) (sp : TaskSpec) (r : Bool) (hsp : spec? tid = some sp)
    (hr : sp.action = .callable r) (hna : tid ∉ acted) :
    Called (tid :: acted) spec? (hist ++ [.actionCalled tid]) where
  acted_called t sp' r' ha hsp' hact := by
    rcases List.mem_cons.mp ha with rfl | ha
    · exact List.mem_append_right _ List.mem_cons_self
    · exact List.mem_append_left _ (hc.acted_called t sp' r' ha hsp' hact)
  called_acted t ht := by
    rcases List.mem_append.mp ht with ht | ht
    · exact (hc.called_acted t ht).imp_left (List.mem_cons_of_mem _)
    · cases List.mem_singleton.mp ht
      exact ⟨List.mem_cons_self, sp, r, hsp, hr⟩
  count t := by
    rw [List.count_append]
    by_cases htt : t = tid
    · subst htt
      rw [List.count_eq_zero.mpr fun hm => hna (hc.called_acted t hm).1, List.count_singleton_self]
      exact Nat.le_refl 1
    · rw [List.count_eq_zero.mpr fun hm => htt (TLab.actionCalled.inj (List.mem_singleton.mp hm))]
      exact hc.count t

/-- Invariants of crash-free runs that need no distinctness assumption. -/
structure Inv (s : TSt) : Prop where
  wait_acted : ∀ tid, s.waitingFor = some tid → tid ∈ s.acted
  asked : ∀ tid, s.statusOf tid = some .cancelAsked →
    ∃ sp, s.spec? tid = some sp ∧ (sp.action = .cancel ∨ sp.action = .callable true)
  called : Called s.acted s.spec? s.hist
  /-- what both waiting theorems of C08 rest on -/
  gone_st : ∀ tid, s.statusOf tid ≠ none → Item.fin tid ∉ s.stack →
    (∃ e, s.statusOf tid = some (.closed e)) ∧ tid ∈ s.acted

theorem Inv.move (s s' : TSt) (hi : Inv s) (hm : Mv s s') : Inv s' := by
  obtain ⟨hwa, hasked, hcal, hgone⟩ := hi
  cases hm with
  | set tid st st' hh h hhe hnh hst hncl hask =>
    subst hhe
    refine ⟨hwa, fun t ht => ?_, hcal.append h hnh, fun t hsn hns => ?_⟩
    · rcases alookup_ainsert_eq_some ht with ⟨rfl, rfl⟩ | ⟨_, ht⟩
      · exact hask rfl
      · exact hasked t ht
    · have hsn' : s.statusOf t ≠ none :=
        (alookup_ainsert_ne_none.mp hsn).elim (fun e => by rw [← e, hst]; simp) id
      obtain ⟨⟨e, he⟩, ha⟩ := hgone t hsn' hns
      have htt : tid ≠ t := by rintro rfl; rw [hst] at he; exact hncl e (Option.some.inj he)
      exact ⟨⟨e, (alookup_ainsert_other t tid st' s.status htt).trans he⟩, ha⟩
  | flags b1 b2 b3 hh h hhe hnh => subst hhe; exact ⟨hwa, hasked, hcal.append h hnh, hgone⟩
  | popCb id r rest ex hh h hhe hnh hw hstk =>
    subst hhe
    refine ⟨hwa, hasked, hcal.append h hnh, fun t hsn hns => hgone t hsn fun hm => hns ?_⟩
    rw [hstk] at hm
    exact (List.mem_cons.mp hm).resolve_left (by simp)
  | popFin tid e hw hst =>
    refine ⟨fun t ht => (by cases ht), hasked, hcal, fun t hsn hns => ?_⟩
    by_cases htt : t = tid
    · subst htt; exact ⟨⟨e, hst⟩, hwa t hw⟩
    · exact hgone t hsn fun hm => hns (List.mem_filter.mpr ⟨hm, by simp [htt]⟩)
  | popCbLate id r rest ex tid hw hstk hla hst =>
    refine ⟨hwa, fun t ht => ?_, hcal.append [_] (by simp), fun t hsn hns => ?_⟩
    · rcases alookup_ainsert_eq_some ht with ⟨_, hv⟩ | ⟨_, ht⟩
      · cases hv
      · exact hasked t ht
    · have htt : tid ≠ t := by rintro rfl; exact hns List.mem_cons_self
      have hsn' := (alookup_ainsert_ne_none.mp hsn).resolve_left htt
      obtain ⟨⟨e, he⟩, ha⟩ := hgone t hsn' fun hm => hns (by
        rw [hstk] at hm
        exact List.mem_cons_of_mem _ ((List.mem_cons.mp hm).resolve_left (by simp)))
      exact ⟨⟨e, (alookup_ainsert_other t tid TStatus.running s.status htt).trans he⟩, ha⟩
  | act tid rest sp hh hw hstk hsp hcase =>
    refine ⟨fun t ht => ?_, hasked, ?_, fun t hsn hns => (hgone t hsn hns).imp_right (List.mem_cons_of_mem _)⟩
    · cases ht; exact List.mem_cons_self
    · rcases hcase with ⟨hcn, rfl⟩ | ⟨⟨r, hr⟩, hna, rfl⟩
      · refine hcal.cons_silent tid fun sp' r hsp' hact => ?_
        cases hsp.symm.trans hsp'
        rcases hcn with hcn | hcn <;> rw [hcn] at hact <;> cases hact
      · exact hcal.cons_called tid sp r hsp hr hna

/-- The owner's stack is a suffix `rest` of the initial stack `I`, possibly with the finalizer of one late task
(`L`: callback ↦ late task) whose callback has run on top of it. -/
def Shape (I : List Item) (L : List (Nat × Nat)) (stk : List Item) (hist : List TLab) : Prop :=
  ∃ popped rest, popped ++ rest = I ∧
    (stk = rest ∨ ∃ cb tid, (cb, tid) ∈ L ∧ TLab.cbRun cb ∈ hist ∧ stk = .fin tid :: rest)

theorem Shape.mono {I : List Item} {L : List (Nat × Nat)} {stk : List Item} {h h' : List TLab}
    (hs : Shape I L stk h) (hsub : ∀ x, x ∈ h → x ∈ h') : Shape I L stk h' := by
  obtain ⟨p, rest, hp, hs | ⟨cb, tid, hL, hh, hs⟩⟩ := hs
  · exact ⟨p, rest, hp, Or.inl hs⟩
  · exact ⟨p, rest, hp, Or.inr ⟨cb, tid, hL, hsub _ hh, hs⟩⟩

theorem Shape.cb_top {I : List Item} {L : List (Nat × Nat)} {id : Nat} {r : Option Nat} {rest : List Item}
    {h : List TLab} (hs : Shape I L (.cb id r :: rest) h) : ∃ popped, popped ++ .cb id r :: rest = I := by
  obtain ⟨p, rest0, hp, hs | ⟨cb, t, _, _, hs⟩⟩ := hs
  · exact ⟨p, hs ▸ hp⟩
  · cases hs

/-- Invariants relative to the initial stack `I` and the late tasks `L`; they need the distinctness hypotheses of
`Inv2.move`. -/
structure Inv2 (I : List Item) (L : List (Nat × Nat)) (s : TSt) : Prop where
  suffix : Shape I L s.stack s.hist
  wait_head : ∀ tid, s.waitingFor = some tid → s.stack.head? = some (.fin tid)
  lates_eq : s.lates = L
  late_ran : ∀ cb tid, (cb, tid) ∈ L → s.statusOf tid ≠ none → TLab.cbRun cb ∈ s.hist

theorem Inv2.move (I : List Item) (L : List (Nat × Nat)) (hI : I.Nodup)
    (hLI : ∀ cb tid, (cb, tid) ∈ L → Item.fin tid ∉ I)
    (hLn : ∀ cb cb' tid, (cb, tid) ∈ L → (cb', tid) ∈ L → cb = cb')
    (s s' : TSt) (hi : Inv2 I L s) (hm : Mv s s') : Inv2 I L s' := by
  obtain ⟨h1, h2, h3, h4⟩ := hi
  cases hm with
  | set tid st st' hh h hhe hnh hst hncl hask =>
    subst hhe
    refine ⟨h1.mono (fun x hx => List.mem_append_left _ hx), h2, h3,
      fun cb t hL hsn => List.mem_append_left _ (h4 cb t hL ?_)⟩
    exact (alookup_ainsert_ne_none.mp hsn).elim (fun e => by rw [← e, hst]; simp) id
  | flags b1 b2 b3 hh h hhe hnh =>
    subst hhe
    exact ⟨h1.mono (fun x hx => List.mem_append_left _ hx), h2, h3,
      fun cb t hL hsn => List.mem_append_left _ (h4 cb t hL hsn)⟩
  | popCb id r rest ex hh h hhe hnh hw hstk =>
    subst hhe
    obtain ⟨p, hp⟩ := Shape.cb_top (hstk ▸ h1)
    exact ⟨⟨p ++ [.cb id r], rest, by rw [← hp]; simp, .inl rfl⟩, fun t ht => (by cases hw.symm.trans ht), h3,
      fun cb t hL hsn => List.mem_append_left _ (h4 cb t hL hsn)⟩
  | popCbLate id r rest ex tid hw hstk hla hst =>
    obtain ⟨p, hp⟩ := Shape.cb_top (hstk ▸ h1)
    have hmemL : (id, tid) ∈ L := h3 ▸ alookup_mem id tid s.lates hla
    refine ⟨⟨p ++ [.cb id r], rest, by rw [← hp]; simp,
        .inr ⟨id, tid, hmemL, List.mem_append_right _ List.mem_cons_self, rfl⟩⟩,
      fun t ht => (by cases hw.symm.trans ht), h3, fun cb t hL hsn => ?_⟩
    show TLab.cbRun cb ∈ s.hist ++ [TLab.cbRun id]
    rcases alookup_ainsert_ne_none.mp hsn with rfl | hsn
    · rw [hLn cb id tid hL hmemL]; simp
    · exact List.mem_append_left _ (h4 cb t hL hsn)
  | popFin tid e hw hst =>
    refine ⟨?_, fun t ht => (by cases ht), h3, h4⟩
    -- the finalizer on top occurs nowhere below: popping it leaves the rest as it is
    have pop : ∀ rest, s.stack = .fin tid :: rest → Item.fin tid ∉ rest →
        s.stack.filter (· != Item.fin tid) = rest := by
      intro rest hs hn
      rw [hs, List.filter_cons_of_neg (by simp), List.filter_eq_self]
      intro y hy
      simpa using fun e : y = .fin tid => hn (e ▸ hy)
    obtain ⟨rest, hstk⟩ := List.head?_eq_some_iff.mp (h2 tid hw)
    obtain ⟨p, rest0, hp, hs | ⟨cb, t, hL, hran, hs⟩⟩ := h1
    · have hp' : p ++ Item.fin tid :: rest = I := by rw [← hstk, hs, hp]
      have hnm : Item.fin tid ∉ rest := (List.nodup_cons.mp (List.nodup_append.mp (hp' ▸ hI)).2.1).1
      exact ⟨p ++ [.fin tid], rest, by rw [← hp']; simp, .inl (pop rest hstk hnm)⟩
    · cases hs.symm.trans hstk
      exact ⟨p, rest, hp, .inl (pop rest hs fun hm => hLI cb tid hL (hp ▸ List.mem_append_right _ hm))⟩
  | act tid rest sp hh hw hstk hsp hcase =>
    have hsub : ∀ x, x ∈ s.hist → x ∈ hh := by
      intro x hx
      rcases hcase with ⟨_, rfl⟩ | ⟨_, _, rfl⟩
      · exact hx
      · exact List.mem_append_left _ hx
    refine ⟨h1.mono hsub, fun t ht => ?_, h3, fun cb t hL hsn => hsub _ (h4 cb t hL hsn)⟩
    cases ht
    exact congrArg List.head? hstk

/-! ### The initial state

The distinctness assumptions are about keys of entries of `prog` (`allTidOf`, `cbIdOf`, `lateCbOf`) and are used
through `eq_of_filterMap_nodup`: two entries with the same key are the same entry. -/

def itemOf : Setup → Option Item
  | .reg id r => some (.cb id r)
  | .start sp => some (.fin sp.tid)
  | .res _ => none
  | .late _ _ => none

def specOf : Setup → Option TaskSpec
  | .start sp => some sp
  | .late _ sp => some sp
  | _ => none

/-- `DistinctIds` of Props/C08.lean writes this function and the next two out in its three conjuncts, which are
passed where `(prog.filterMap allTidOf).Nodup` etc. are expected: the two must be kept in step. -/
def allTidOf : Setup → Option Nat
  | .start sp => some sp.tid
  | .late _ sp => some sp.tid
  | _ => none

def cbIdOf : Setup → Option Nat
  | .reg id _ => some id
  | _ => none

def lateCbOf : Setup → Option Nat
  | .late cb _ => some cb
  | _ => none

theorem itemOf_cb {a : Setup} {id : Nat} {r : Option Nat} (h : itemOf a = some (.cb id r)) :
    a = .reg id r := by
  cases a <;> cases h <;> rfl

theorem itemOf_fin {a : Setup} {tid : Nat} (h : itemOf a = some (.fin tid)) :
    ∃ sp, a = .start sp ∧ sp.tid = tid := by
  cases a <;> cases h <;> exact ⟨_, rfl, rfl⟩

/-- The function folded here is the one in `TSt.init`, letter for letter: `init_stack` below is this lemma. -/
theorem foldl_stack (prog : List Setup) (acc : List Item) :
    prog.foldl (fun st s => match s with
      | .reg id r => Item.cb id r :: st
      | .start sp => Item.fin sp.tid :: st
      | .res _ => st
      | .late _ _ => st) acc = (prog.filterMap itemOf).reverse ++ acc := by
  induction prog generalizing acc with
  | nil => rfl
  | cons x rest ih =>
    rw [List.foldl_cons, ih]
    cases x <;> simp [List.filterMap_cons, itemOf]

theorem init_stack (prog : List Setup) :
    (TSt.init prog).stack = (prog.filterMap itemOf).reverse :=
  (foldl_stack prog []).trans (List.append_nil _)

theorem init_stack_append (p q : List Setup) :
    (TSt.init (p ++ q)).stack = (TSt.init q).stack ++ (TSt.init p).stack := by
  rw [init_stack, init_stack, init_stack, List.filterMap_append, List.reverse_append]

theorem init_stack_reg (id : Nat) (r : Option Nat) :
    (TSt.init [.reg id r]).stack = [.cb id r] := rfl

theorem init_stack_start (sp : TaskSpec) : (TSt.init [.start sp]).stack = [.fin sp.tid] := rfl

theorem mem_init_stack (prog : List Setup) (i : Item) :
    i ∈ (TSt.init prog).stack ↔ ∃ a, a ∈ prog ∧ itemOf a = some i := by
  rw [init_stack, List.mem_reverse, List.mem_filterMap]

theorem mem_init_stack_fin (prog : List Setup) (tid : Nat) :
    Item.fin tid ∈ (TSt.init prog).stack ↔ ∃ sp, Setup.start sp ∈ prog ∧ sp.tid = tid := by
  rw [mem_init_stack]
  constructor
  · rintro ⟨a, ha, hi⟩
    obtain ⟨sp, rfl, e⟩ := itemOf_fin hi
    exact ⟨sp, ha, e⟩
  · rintro ⟨sp, hm, rfl⟩; exact ⟨_, hm, rfl⟩

theorem init_stack_nodup (prog : List Setup) (h1 : (prog.filterMap allTidOf).Nodup)
    (h2 : (prog.filterMap cbIdOf).Nodup) : (TSt.init prog).stack.Nodup := by
  rw [init_stack, (List.reverse_perm _).nodup_iff]
  rw [List.Nodup, List.pairwise_filterMap] at *
  refine (h1.and h2).imp ?_
  -- two entries that leave the same item have the same key
  rintro a a' ⟨h1, h2⟩ i hi _ hi' rfl
  cases i with
  | cb id r =>
    cases itemOf_cb hi; cases itemOf_cb hi'
    exact h2 id rfl id rfl rfl
  | fin tid =>
    obtain ⟨sp, rfl, rfl⟩ := itemOf_fin hi
    obtain ⟨sp', rfl, e⟩ := itemOf_fin hi'
    exact h1 _ rfl _ rfl e.symm

theorem init_stack_cb_unique (prog : List Setup) (h2 : (prog.filterMap cbIdOf).Nodup) (id : Nat)
    (r r' : Option Nat) (h : Item.cb id r ∈ (TSt.init prog).stack)
    (h' : Item.cb id r' ∈ (TSt.init prog).stack) : r = r' := by
  obtain ⟨a, ha, hi⟩ := (mem_init_stack prog _).mp h
  obtain ⟨a', ha', hi'⟩ := (mem_init_stack prog _).mp h'
  cases itemOf_cb hi; cases itemOf_cb hi'
  cases eq_of_filterMap_nodup h2 ha ha' (k := id) rfl rfl
  rfl

theorem init_statusOf_ne_none (prog : List Setup) (tid : Nat) :
    (TSt.init prog).statusOf tid ≠ none ↔ ∃ sp, Setup.start sp ∈ prog ∧ sp.tid = tid := by
  rw [Ne, TSt.statusOf, alookup_none_iff, Decidable.not_not]
  constructor
  · intro h
    obtain ⟨p, hp, rfl⟩ := List.mem_map.mp h
    obtain ⟨sp, hsp, rfl⟩ := List.mem_map.mp hp
    obtain ⟨a, ha, he⟩ := List.mem_filterMap.mp hsp
    cases a <;> cases he
    exact ⟨_, ha, rfl⟩
  · rintro ⟨sp, hm, rfl⟩
    exact List.mem_map.mpr ⟨_, List.mem_map.mpr ⟨sp, List.mem_filterMap.mpr ⟨_, hm, rfl⟩, rfl⟩, rfl⟩

theorem mem_init_lates (prog : List Setup) (cb tid : Nat) :
    (cb, tid) ∈ (TSt.init prog).lates ↔ ∃ sp, Setup.late cb sp ∈ prog ∧ sp.tid = tid := by
  show (cb, tid) ∈ prog.filterMap _ ↔ _
  rw [List.mem_filterMap]
  constructor
  · rintro ⟨a, ha, he⟩
    cases a <;> cases he
    exact ⟨_, ha, rfl⟩
  · rintro ⟨sp, hm, rfl⟩; exact ⟨_, hm, rfl⟩

theorem late_not_started (prog : List Setup) (h1 : (prog.filterMap allTidOf).Nodup) (cb : Nat)
    (sp : TaskSpec) (h : Setup.late cb sp ∈ prog) : ¬ ∃ sp', Setup.start sp' ∈ prog ∧ sp'.tid = sp.tid := by
  rintro ⟨sp', h', e⟩
  cases eq_of_filterMap_nodup h1 h h' (k := sp.tid) rfl (congrArg some e)

theorem init_statusOf_late (prog : List Setup) (h1 : (prog.filterMap allTidOf).Nodup)
    (cb : Nat) (sp : TaskSpec) (h : Setup.late cb sp ∈ prog) :
    (TSt.init prog).statusOf sp.tid = none :=
  Decidable.byContradiction fun hn =>
    late_not_started prog h1 cb sp h ((init_statusOf_ne_none prog sp.tid).mp hn)

theorem init_stack_no_late_fin (prog : List Setup) (h1 : (prog.filterMap allTidOf).Nodup)
    (cb : Nat) (sp : TaskSpec) (h : Setup.late cb sp ∈ prog) :
    Item.fin sp.tid ∉ (TSt.init prog).stack :=
  fun hm => late_not_started prog h1 cb sp h ((mem_init_stack_fin prog sp.tid).mp hm)

theorem init_lates_unique (prog : List Setup) (h1 : (prog.filterMap allTidOf).Nodup) (cb cb' tid : Nat)
    (h : (cb, tid) ∈ (TSt.init prog).lates) (h' : (cb', tid) ∈ (TSt.init prog).lates) : cb = cb' := by
  obtain ⟨sp, hsp, rfl⟩ := (mem_init_lates prog cb _).mp h
  obtain ⟨sp', hsp', e⟩ := (mem_init_lates prog cb' _).mp h'
  cases eq_of_filterMap_nodup h1 hsp hsp' (k := sp.tid) rfl (congrArg some e)
  rfl

theorem init_lates_lookup (prog : List Setup) (h3 : (prog.filterMap lateCbOf).Nodup) (cb : Nat)
    (sp : TaskSpec) (h : Setup.late cb sp ∈ prog) :
    alookup cb (TSt.init prog).lates = some sp.tid := by
  have hm := (mem_init_lates prog cb sp.tid).mpr ⟨sp, h, rfl⟩
  cases hl : alookup cb (TSt.init prog).lates with
  | none => exact absurd (mem_akeys_of_mem _ _ _ hm) ((alookup_none_iff _ _).mp hl)
  | some t =>
    obtain ⟨sp', hsp', rfl⟩ := (mem_init_lates prog cb t).mp (alookup_mem _ _ _ hl)
    cases eq_of_filterMap_nodup h3 h hsp' (k := cb) rfl rfl
    rfl

theorem init_specs (prog : List Setup) : (TSt.init prog).specs = prog.filterMap specOf := rfl

theorem allTidOf_eq (x : Setup) : allTidOf x = (specOf x).map (·.tid) := by
  cases x <;> rfl

theorem init_spec_of (prog : List Setup) (h1 : (prog.filterMap allTidOf).Nodup) (x : Setup)
    (sp : TaskSpec) (hx : x ∈ prog) (hs : specOf x = some sp) :
    (TSt.init prog).spec? sp.tid = some sp := by
  have hnd : ((prog.filterMap specOf).map (·.tid)).Nodup := by
    rw [List.map_filterMap]; exact funext allTidOf_eq ▸ h1
  exact find?_key_of_mem (fun _ ha _ hb => eq_of_map_nodup hnd ha hb) (List.mem_filterMap.mpr ⟨x, hx, hs⟩)

theorem init_spec (prog : List Setup) (h1 : (prog.filterMap allTidOf).Nodup) (sp : TaskSpec)
    (h : Setup.start sp ∈ prog) : (TSt.init prog).spec? sp.tid = some sp :=
  init_spec_of prog h1 _ sp h rfl

theorem init_spec_late (prog : List Setup) (h1 : (prog.filterMap allTidOf).Nodup) (cb : Nat)
    (sp : TaskSpec) (h : Setup.late cb sp ∈ prog) : (TSt.init prog).spec? sp.tid = some sp :=
  init_spec_of prog h1 _ sp h rfl

theorem snapshots_late (prog : List Setup) (h1 : (prog.filterMap allTidOf).Nodup) (cb : Nat)
    (sp : TaskSpec) (h : Setup.late cb sp ∈ prog) (seen : List Nat) :
    alookup sp.tid (snapshots prog seen) = some (seen ++ resOf prog) := by
  induction prog generalizing seen with
  | nil => cases h
  | cons x rest ih =>
    -- an earlier entry is for another task and does not hide the one sought
    have hne : ∀ sp' : TaskSpec, allTidOf x = some sp'.tid → Setup.late cb sp ∈ rest → ¬ sp'.tid = sp.tid := by
      intro sp' hx h' he
      rw [List.filterMap_cons_some hx] at h1
      exact (List.nodup_cons.mp h1).1 (he ▸ List.mem_filterMap.mpr ⟨_, h', rfl⟩)
    have h1' : (rest.filterMap allTidOf).Nodup :=
      h1.sublist ((List.sublist_cons_self x rest).filterMap _)
    rcases List.mem_cons.mp h with rfl | h'
    · show alookup sp.tid ((sp.tid, seen ++ resOf rest) :: snapshots rest seen) = _
      rw [alookup_cons, if_pos rfl]; rfl
    · cases x with
      | reg id r => exact ih h1' h' seen
      | res v =>
        show alookup sp.tid (snapshots rest (seen ++ [v])) = some (seen ++ v :: resOf rest)
        rw [ih h1' h' (seen ++ [v]), List.append_assoc]; rfl
      | start sp' =>
        show alookup sp.tid ((sp'.tid, seen) :: snapshots rest seen) = _
        rw [alookup_cons, if_neg (hne sp' rfl h')]; exact ih h1' h' seen
      | late cb' sp' =>
        show alookup sp.tid ((sp'.tid, seen ++ resOf rest) :: snapshots rest seen) = _
        rw [alookup_cons, if_neg (hne sp' rfl h')]; exact ih h1' h' seen

theorem init_inv (prog : List Setup) : Inv (TSt.init prog) := by
  refine ⟨fun t ht => (by cases ht), fun t ht => ?_, ⟨fun t sp r ha => (by cases ha), fun t ht => (by cases ht),
    fun t => Nat.zero_le 1⟩, fun t hsn hns => ?_⟩
  · -- every task is running
    obtain ⟨sp, _, e⟩ := List.mem_map.mp (alookup_mem _ _ _ ht)
    cases e
  · exact absurd ((mem_init_stack_fin prog t).mpr ((init_statusOf_ne_none prog t).mp hsn)) hns

theorem init_inv2 (prog : List Setup) (h1 : (prog.filterMap allTidOf).Nodup) :
    Inv2 (TSt.init prog).stack (TSt.init prog).lates (TSt.init prog) := by
  refine ⟨⟨[], _, rfl, Or.inl rfl⟩, fun t ht => (by cases ht), rfl, fun cb t hL hsn => ?_⟩
  obtain ⟨sp, hsp, rfl⟩ := (mem_init_lates prog cb t).mp hL
  exact absurd (init_statusOf_late prog h1 cb sp hsp) hsn

/-! ### Reachable crash-free states -/

theorem reach_inv (prog : List Setup) (ls : List TLab) (s : TSt)
    (h : TExec (TSt.init prog) ls s) (hc : s.crashed = []) : Inv s :=
  exec_moves Inv Inv.move _ _ _ h (init_inv prog) hc

theorem reach_started (prog : List Setup) (ls : List TLab) (s : TSt)
    (h : TExec (TSt.init prog) ls s) (hc : s.crashed = []) (sp : TaskSpec)
    (hsp : Setup.start sp ∈ prog) : s.statusOf sp.tid ≠ none := by
  refine exec_moves (fun t => t.statusOf sp.tid ≠ none) (fun a b ha hm => Mv.status_some a b hm _ ha)
    _ _ _ h ?_ hc
  exact (init_statusOf_ne_none prog sp.tid).mpr ⟨sp, hsp, rfl⟩

theorem reach_inv2 (prog : List Setup) (h1 : (prog.filterMap allTidOf).Nodup)
    (h2 : (prog.filterMap cbIdOf).Nodup) (ls : List TLab) (s : TSt)
    (h : TExec (TSt.init prog) ls s) (hc : s.crashed = []) :
    Inv2 (TSt.init prog).stack (TSt.init prog).lates s :=
  exec_moves (Inv2 (TSt.init prog).stack (TSt.init prog).lates)
    (Inv2.move _ _ (init_stack_nodup prog h1 h2)
      (fun cb tid hL => by
        obtain ⟨sp, hsp, rfl⟩ := (mem_init_lates prog cb tid).mp hL
        exact init_stack_no_late_fin prog h1 cb sp hsp)
      (init_lates_unique prog h1))
    _ _ _ h (init_inv2 prog h1) hc

theorem reach_frame (prog : List Setup) (ls : List TLab) (s : TSt)
    (h : TExec (TSt.init prog) ls s) (hc : s.crashed = []) :
    s.specs = (TSt.init prog).specs ∧ s.snaps = snapshots prog [] :=
  exec_moves (fun t => t.specs = (TSt.init prog).specs ∧ t.snaps = snapshots prog [])
    (fun a b hab hm => by
      obtain ⟨h1, h2, _⟩ := Mv.frame a b hm
      exact ⟨h1.trans hab.1, h2.trans hab.2⟩) _ _ _ h ⟨rfl, rfl⟩ hc

theorem cbRun_late_status (s s' : TSt) (cb tid : Nat) (hstep : tstep? s (.cbRun cb) = some s')
    (hcr : s.crashed = []) (hla : alookup cb s.lates = some tid) : s'.statusOf tid ≠ none := by
  obtain ⟨s1, n, hcore, rfl⟩ := tstep_core s s' _ hstep hcr
  apply normalize_status_some
  cases hcore with
  | cbRun _ r rest ex hexi hw hstk hcase =>
    rcases hcase with hn | ⟨t, st, ht, hst⟩
    · cases hn.symm.trans hla
    · cases ht.symm.trans hla
      exact fun hn => Option.some_ne_none st (hst.symm.trans hn)
  | cbRunLate _ r rest ex t hexi hw hstk ht hst =>
    cases ht.symm.trans hla
    exact alookup_ainsert_ne_none.mpr (.inl rfl)

theorem blockLeft_closed (prog : List Setup) (ls : List TLab) (s s' : TSt)
    (h : TExec (TSt.init prog) ls s) (hc : s.crashed = []) (hstep : tstep? s .blockLeft = some s')
    (tid : Nat) (hst : s.statusOf tid ≠ none) :
    (∃ e, s.statusOf tid = some (.closed e)) ∧ tid ∈ s.acted := by
  obtain ⟨s1, n, hcore, _⟩ := tstep_core _ _ _ hstep hc
  cases hcore with
  | blockLeft hexi hstk hw hl => exact (reach_inv prog ls s h hc).gone_st tid hst (by rw [hstk]; simp)

theorem cbRun_closed (prog : List Setup) (h1 : (prog.filterMap allTidOf).Nodup)
    (h2 : (prog.filterMap cbIdOf).Nodup) (ls : List TLab) (s s' : TSt)
    (h : TExec (TSt.init prog) ls s) (hc : s.crashed = []) (id : Nat)
    (hstep : tstep? s (.cbRun id) = some s') :
    ∃ popped r rest, popped ++ .cb id r :: rest = (TSt.init prog).stack ∧
      ∀ tid, s.statusOf tid ≠ none → Item.fin tid ∉ rest → ∃ e, s.statusOf tid = some (.closed e) := by
  obtain ⟨s1, n, hcore, _⟩ := tstep_core _ _ _ hstep hc
  obtain ⟨r, rest, hstk⟩ : ∃ r rest, s.stack = .cb id r :: rest := by
    cases hcore with
    | cbRun _ r rest _ _ _ hstk _ => exact ⟨r, rest, hstk⟩
    | cbRunLate _ r rest _ _ _ _ hstk _ _ => exact ⟨r, rest, hstk⟩
  obtain ⟨popped, hpop⟩ := Shape.cb_top (hstk ▸ (reach_inv2 prog h1 h2 ls s h hc).suffix)
  refine ⟨popped, r, rest, hpop, fun tid hst hn => ?_⟩
  exact ((reach_inv prog ls s h hc).gone_st tid hst (by rw [hstk]; simpa using hn)).1

end Tk
end Asphalt
