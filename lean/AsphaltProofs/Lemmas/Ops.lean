/-
The context-level operations of the kernel (`AsphaltModel/Context.lean`), characterised once: what each
returns along its ladder of checks (a refusal leaves the context as it is, a success is an explicit record
update); for the folds, that what every step keeps the fold keeps; and `Closed`, which carries a relation
between the context before and after across every lookup and, with `add_resource` / `add_resource_factory`,
across a whole teardown.

The case lemmas take the ladder from the function's own case principle (`fun_cases`), or, for the lookups, whose
generation paths go through `callFactory`, walk down it with `cases` on each condition: `split` or `simp` on the
unfolded definition is many times slower to check.
-/
import AsphaltModel.Context
import AsphaltProofs.Lemmas.Assoc

namespace Asphalt

/-! ### the store loops -/

theorem Key.eq_iff (k : Key) (t : TypeId) (n : String) : (⟨t, n⟩ : Key) = k ↔ k.ty = t ∧ k.name = n := by
  cases k; simp [eq_comm]

/-- Every entry sits under its own name and one of its own types, and is registered under all of its types
(`ResWF` for resources, the first half of `FacWF` for factories). -/
def TableWF {β : Type} (name : β → String) (types : β → List TypeId) (r : List (Key × β)) : Prop :=
  ∀ k c, alookup k r = some c →
    name c = k.name ∧ k.ty ∈ types c ∧ ∀ t ∈ types c, alookup ⟨t, name c⟩ r = some c

/-- `storeAll` and `storeFac` are one loop, at two types of entry. -/
structure IsStore {β : Type} (store : β → String → List TypeId → List (Key × β) → List (Key × β)) : Prop where
  nil : ∀ c name r, store c name [] r = r
  cons : ∀ c name t ts r, store c name (t :: ts) r = store c name ts (ainsert ⟨t, name⟩ c r)

theorem storeAll_isStore : IsStore storeAll := ⟨fun _ _ _ => rfl, fun _ _ _ _ _ => rfl⟩

theorem storeFac_isStore : IsStore storeFac := ⟨fun _ _ _ => rfl, fun _ _ _ _ _ => rfl⟩

namespace IsStore
variable {β : Type} {store : β → String → List TypeId → List (Key × β) → List (Key × β)} (hs : IsStore store)
include hs

theorem lookup (c : β) (name : String) (ts : List TypeId) :
    ∀ (r : List (Key × β)) (k : Key),
      alookup k (store c name ts r) = if k.name = name ∧ k.ty ∈ ts then some c else alookup k r := by
  induction ts with
  | nil => intro r k; simp [hs.nil]
  | cons t ts ih =>
    intro r k
    simp only [hs.cons, ih, alookup_ainsert, Key.eq_iff, List.mem_cons]
    by_cases h1 : k.name = name <;> by_cases h2 : k.ty = t <;> by_cases h3 : k.ty ∈ ts <;> simp [h1, h2, h3]

theorem noDup (c : β) (name : String) (ts : List TypeId) :
    ∀ r : List (Key × β), NoDupKeys r → NoDupKeys (store c name ts r) := by
  induction ts with
  | nil => exact fun r h => (hs.nil c name r).symm ▸ h
  | cons t ts ih => exact fun r h => (hs.cons c name t ts r).symm ▸ ih _ (NoDupKeys_ainsert _ _ _ h)

theorem keep (c : β) (name : String) (ts : List TypeId) (r : List (Key × β))
    (hfree : ∀ t ∈ ts, alookup ⟨t, name⟩ r = none) (k : Key) (c0 : β) (hk : alookup k r = some c0) :
    alookup k (store c name ts r) = some c0 := by
  rw [hs.lookup, if_neg, hk]
  rintro ⟨hn, ht⟩
  have := hfree k.ty ht
  rw [← hn, hk] at this
  cases this

theorem tableWF {name : β → String} {types : β → List TypeId} {r : List (Key × β)}
    (h : TableWF name types r) (c : β) (hfree : ∀ t ∈ types c, alookup ⟨t, name c⟩ r = none) :
    TableWF name types (store c (name c) (types c) r) := by
  intro k c' hk
  rw [hs.lookup] at hk
  split at hk
  · next hc =>
    cases hk
    exact ⟨hc.1.symm, hc.2, fun t ht => by rw [hs.lookup, if_pos ⟨rfl, ht⟩]⟩
  · obtain ⟨h1, h2, h3⟩ := h k c' hk
    refine ⟨h1, h2, fun t ht => ?_⟩
    rw [hs.lookup, if_neg, h3 t ht]
    rintro ⟨hn, ht'⟩
    have := h3 t ht
    rw [show name c' = name c from hn, hfree t ht'] at this
    cases this

end IsStore

theorem free_of_any_false {β : Type} {name : String} {ts : List TypeId} {r : List (Key × β)}
    (h : ts.any (fun t => acontains ⟨t, name⟩ r) = false) :
    ∀ t ∈ ts, alookup ⟨t, name⟩ r = none :=
  fun t ht => (acontains_false_iff _ _).mp (List.any_eq_false.mp h t ht |> Bool.eq_false_iff.mpr)

theorem countOf_ainsert (fid fid' n : Nat) (l : List (Nat × Nat)) :
    countOf fid (ainsert fid' n l) = if fid' = fid then n else countOf fid l := by
  simp only [countOf, alookup_ainsert]; split <;> rfl

/-! ### registering: `add_resource`, `add_resource_factory`, a factory's product -/

theorem ctxAdd_cases (cid : CtxId) (x : Ctx) (a : AddArgs) :
    (x.state.usable = false ∧ ctxAdd cid x a = (x, [.runtimeError x.state])) ∨
    (x.state.usable = true ∧ ∃ o, (o = .typeError ∨ o = .valueError ∨ o = .conflict) ∧
      ctxAdd cid x a = (x, [o])) ∨
    (x.state.usable = true ∧ ∃ v, a.val = some v ∧
      (addTypes a).any (fun t => acontains ⟨t, a.name⟩ x.res) = false ∧
      ctxAdd cid x a =
        ({ x with res := storeAll ⟨.static v, addTypes a, a.name, a.desc, false⟩ a.name (addTypes a) x.res,
                  tds := (match a.td with | some cb => cb :: x.tds | none => x.tds),
                  events := x.events ++ [⟨addTypes a, a.name, a.desc, false⟩] },
         [.ok, .ev cid ⟨addTypes a, a.name, a.desc, false⟩])) := by
  fun_cases ctxAdd cid x a with
  | case1 h => exact .inl ⟨by simpa using h, rfl⟩
  | case2 hu | case5 hu => exact .inr (.inl ⟨by simpa using hu, _, .inl rfl, rfl⟩)
  | case3 hu | case4 hu => exact .inr (.inl ⟨by simpa using hu, _, .inr (.inl rfl), rfl⟩)
  | case6 hu => exact .inr (.inl ⟨by simpa using hu, _, .inr (.inr rfl), rfl⟩)
  | case7 hu _ v hv _ _ _ hc => exact .inr (.inr ⟨by simpa using hu, v, hv, Bool.eq_false_iff.mpr hc, rfl⟩)

theorem ctxAddFactory_cases (cid : CtxId) (x : Ctx) (a : FacArgs) :
    (x.state ≠ .opened ∧ ctxAddFactory cid x a = (x, [.runtimeError x.state])) ∨
    (x.state = .opened ∧ ∃ o, (o = .typeError ∨ o = .valueError ∨ o = .conflict ∨ o = .badOp) ∧
      ctxAddFactory cid x a = (x, [o])) ∨
    (x.state = .opened ∧ a.types.any (fun t => acontains ⟨t, a.name⟩ x.fac) = false ∧
      x.fac.any (fun kf => kf.2.fid = a.fid) = false ∧
      ctxAddFactory cid x a =
        ({ x with fac := storeFac ⟨a.fid, a.types, a.name, a.desc, a.isAsync, a.gated, a.failFirst⟩
                    a.name a.types x.fac,
                  events := x.events ++ [⟨a.types, a.name, a.desc, true⟩] },
         [.ok, .ev cid ⟨a.types, a.name, a.desc, true⟩])) := by
  fun_cases ctxAddFactory cid x a with
  | case1 h => exact .inl ⟨h, rfl⟩
  | case2 hs | case3 hs => exact .inr (.inl ⟨Decidable.not_not.mp hs, _, .inr (.inl rfl), rfl⟩)
  | case4 hs => exact .inr (.inl ⟨Decidable.not_not.mp hs, _, .inl rfl, rfl⟩)
  | case5 hs => exact .inr (.inl ⟨Decidable.not_not.mp hs, _, .inr (.inr (.inl rfl)), rfl⟩)
  | case6 hs => exact .inr (.inl ⟨Decidable.not_not.mp hs, _, .inr (.inr (.inr rfl)), rfl⟩)
  | case7 hs _ _ _ hc hf =>
    exact .inr (.inr ⟨Decidable.not_not.mp hs, Bool.eq_false_iff.mpr hc, Bool.eq_false_iff.mpr hf, rfl⟩)

def bumpCall (x : Ctx) (f : Factory) : Ctx :=
  { x with callCount := ainsert f.fid (countOf f.fid x.callCount + 1) x.callCount }

theorem callFactory_eq (cid : CtxId) (x : Ctx) (f : Factory) :
    callFactory cid x f = (bumpCall x f,
      if countOf f.fid x.callCount < f.failFirst then none
      else some (.gen cid f.fid (countOf f.fid x.callCount))) := by
  unfold callFactory bumpCall
  dsimp only
  split <;> rfl

/-- The types a product of `f` is stored under: those still free in `x`. -/
abbrev freeTypes (x : Ctx) (f : Factory) : List TypeId :=
  f.types.filter fun t => !acontains ⟨t, f.name⟩ x.res

theorem mem_freeTypes {x : Ctx} {f : Factory} {t : TypeId} :
    t ∈ freeTypes x f ↔ t ∈ f.types ∧ alookup ⟨t, f.name⟩ x.res = none := by
  rw [List.mem_filter, Bool.not_eq_true', acontains_false_iff]

theorem freeTypes_free (x : Ctx) (f : Factory) : ∀ t ∈ freeTypes x f, alookup ⟨t, f.name⟩ x.res = none :=
  fun _ ht => (mem_freeTypes.mp ht).2

theorem storeGenerated_cases (cid : CtxId) (x : Ctx) (f : Factory) (v : Val) :
    (freeTypes x f = [] ∧ storeGenerated cid x f v =
      ({ x with res := storeAll ⟨v, freeTypes x f, f.name, f.desc, true⟩ f.name (freeTypes x f) x.res,
                genCount := ainsert f.fid (countOf f.fid x.genCount + 1) x.genCount }, [])) ∨
    (freeTypes x f ≠ [] ∧ storeGenerated cid x f v =
      ({ x with res := storeAll ⟨v, freeTypes x f, f.name, f.desc, true⟩ f.name (freeTypes x f) x.res,
                genCount := ainsert f.fid (countOf f.fid x.genCount + 1) x.genCount,
                events := x.events ++ [⟨freeTypes x f, f.name, f.desc, false⟩] },
       [.ev cid ⟨freeTypes x f, f.name, f.desc, false⟩])) := by
  fun_cases storeGenerated cid x f v
  next h => exact .inl ⟨List.isEmpty_iff.mp h, rfl⟩
  next h => exact .inr ⟨fun e => h (List.isEmpty_iff.mpr e), rfl⟩

theorem storeGenerated_fields (cid : CtxId) (x : Ctx) (f : Factory) (v : Val) :
    (storeGenerated cid x f v).1.fac = x.fac ∧ (storeGenerated cid x f v).1.pending = x.pending ∧
    (storeGenerated cid x f v).1.callCount = x.callCount ∧
    (storeGenerated cid x f v).1.genCount = ainsert f.fid (countOf f.fid x.genCount + 1) x.genCount ∧
    (storeGenerated cid x f v).1.res =
      storeAll ⟨v, freeTypes x f, f.name, f.desc, true⟩ f.name (freeTypes x f) x.res := by
  rcases storeGenerated_cases cid x f v with ⟨_, h⟩ | ⟨_, h⟩ <;> rw [h] <;> exact ⟨rfl, rfl, rfl, rfl, rfl⟩

theorem storeGenerated_stores (cid : CtxId) (x : Ctx) (f : Factory) (v : Val) (t : TypeId)
    (ht : t ∈ freeTypes x f) :
    alookup ⟨t, f.name⟩ (storeGenerated cid x f v).1.res = some ⟨v, freeTypes x f, f.name, f.desc, true⟩ := by
  rw [(storeGenerated_fields cid x f v).2.2.2.2, storeAll_isStore.lookup, if_pos ⟨rfl, ht⟩]

/-- The synchronous generation path shared by the three lookups. -/
def generate (cid : CtxId) (x : Ctx) (f : Factory) : Ctx × List Out :=
  storeGenerated cid (bumpCall x f) f (.gen cid f.fid (countOf f.fid x.callCount))

/-! ### the lookups -/

/-- The six ways `get_resource_nowait` can go, as an eliminator: refused (`h1`), found (`h2`), an asynchronous
factory (`h3`), the factory call raises (`h4`), a product is generated (`h5`), nothing there (`h6`). -/
theorem ctxGetNowait_cases (P : Ctx × List Out → Prop) (cid : CtxId) (x : Ctx) (k : Key) (opt : Bool)
    (h1 : x.state.usable = false → P (x, [.runtimeError x.state]))
    (h2 : ∀ cont, x.state.usable = true → alookup k x.res = some cont → P (x, [.val cont.val]))
    (h3 : ∀ f, x.state.usable = true → alookup k x.res = none → alookup k x.fac = some f →
      f.isAsync = true → P (x, [.asyncError]))
    (h4 : ∀ f, x.state.usable = true → alookup k x.res = none → alookup k x.fac = some f →
      f.isAsync = false → countOf f.fid x.callCount < f.failFirst →
      P (bumpCall x f, [.raisedExc (.exn 0)]))
    (h5 : ∀ f, x.state.usable = true → alookup k x.res = none → alookup k x.fac = some f →
      f.isAsync = false → ¬ countOf f.fid x.callCount < f.failFirst →
      P ((generate cid x f).1, .val (.gen cid f.fid (countOf f.fid x.callCount)) :: (generate cid x f).2))
    (h6 : x.state.usable = true → alookup k x.res = none → alookup k x.fac = none →
      P (x, [if opt then .none else .notFound])) :
    P (ctxGetNowait cid x k opt) := by
  unfold ctxGetNowait
  cases hs : x.state.usable
  · exact h1 hs
  cases hr : alookup k x.res
  case some cont => exact h2 cont hs hr
  cases hf : alookup k x.fac
  case none => exact h6 hs hr hf
  rename_i f
  dsimp only
  cases ha : f.isAsync
  case true => exact h3 f hs hr hf ha
  rw [callFactory_eq]
  by_cases hc : countOf f.fid x.callCount < f.failFirst
  · rw [if_pos hc]; exact h4 f hs hr hf ha hc
  · rw [if_neg hc]; exact h5 f hs hr hf ha hc

def addWaiter (x : Ctx) (fid : Nat) (w : TaskId × Key × Bool) : Ctx :=
  { x with pending := x.pending.map fun p =>
      if p.fid = fid then { p with waiters := p.waiters ++ [w] } else p }

def startGen (x : Ctx) (f : Factory) (t : TaskId) (k : Key) (opt : Bool) : Ctx :=
  { bumpCall x f with pending := x.pending ++ [⟨f.fid, t, k, opt, []⟩] }

/-- The same for the awaited `get_resource`, with two more ways: a generation of the factory is in flight and the
lookup joins its waiters (`h3`), or the factory is asynchronous and gated and the lookup becomes the runner of a new
generation (`h3'`). -/
theorem ctxGet_cases (P : Ctx × List Out → Prop) (cid : CtxId) (x : Ctx) (t : TaskId) (k : Key)
    (opt : Bool)
    (h1 : x.state.usable = false → P (x, [.runtimeError x.state]))
    (h2 : ∀ cont, x.state.usable = true → alookup k x.res = some cont → P (x, [.val cont.val]))
    (h3 : ∀ f p, x.state.usable = true → alookup k x.res = none → alookup k x.fac = some f →
      x.pending.find? (fun p => p.fid = f.fid) = some p →
      P (addWaiter x f.fid (t, k, opt), [.blocked]))
    (h3' : ∀ f, x.state.usable = true → alookup k x.res = none → alookup k x.fac = some f →
      x.pending.find? (fun p => p.fid = f.fid) = none → (f.isAsync && f.gated) = true →
      P (startGen x f t k opt, [.blocked]))
    (h4 : ∀ f, x.state.usable = true → alookup k x.res = none → alookup k x.fac = some f →
      x.pending.find? (fun p => p.fid = f.fid) = none → (f.isAsync && f.gated) = false →
      countOf f.fid x.callCount < f.failFirst →
      P (bumpCall x f, [.raisedExc (.exn 0)]))
    (h5 : ∀ f, x.state.usable = true → alookup k x.res = none → alookup k x.fac = some f →
      x.pending.find? (fun p => p.fid = f.fid) = none → (f.isAsync && f.gated) = false →
      ¬ countOf f.fid x.callCount < f.failFirst →
      P ((generate cid x f).1, registeredVal (generate cid x f).1 k :: (generate cid x f).2))
    (h6 : x.state.usable = true → alookup k x.res = none → alookup k x.fac = none →
      P (x, [if opt then .none else .notFound])) :
    P (ctxGet cid x t k opt) := by
  unfold ctxGet
  cases hs : x.state.usable
  · exact h1 hs
  cases hr : alookup k x.res
  case some cont => exact h2 cont hs hr
  cases hf : alookup k x.fac
  case none => exact h6 hs hr hf
  rename_i f
  dsimp only
  cases hp : x.pending.find? (fun p => p.fid = f.fid)
  case some p => exact h3 f p hs hr hf hp
  cases hg : (f.isAsync && f.gated)
  case true => exact h3' f hs hr hf hp hg
  rw [callFactory_eq]
  by_cases hc : countOf f.fid x.callCount < f.failFirst
  · rw [if_pos hc]; exact h4 f hs hr hf hp hg hc
  · rw [if_neg hc]; exact h5 f hs hr hf hp hg hc

theorem ctxGetNowait_gen (cid : CtxId) (x : Ctx) (k : Key) (opt : Bool) (f : Factory)
    (hs : x.state.usable = true) (hmiss : alookup k x.res = none) (hf : alookup k x.fac = some f)
    (hsync : f.isAsync = false) :
    ctxGetNowait cid x k opt =
      if countOf f.fid x.callCount < f.failFirst then (bumpCall x f, [.raisedExc (.exn 0)])
      else ((generate cid x f).1,
            .val (.gen cid f.fid (countOf f.fid x.callCount)) :: (generate cid x f).2) := by
  unfold ctxGetNowait
  simp only [hs, hmiss, hf, hsync, callFactory_eq]
  by_cases h : countOf f.fid x.callCount < f.failFirst <;> simp [h, generate]

theorem ctxGet_gen (cid : CtxId) (x : Ctx) (t : TaskId) (k : Key) (opt : Bool) (f : Factory)
    (hs : x.state.usable = true) (hmiss : alookup k x.res = none) (hf : alookup k x.fac = some f)
    (hnp : x.pending.find? (fun p => p.fid = f.fid) = none)
    (hung : (f.isAsync && f.gated) = false) :
    ctxGet cid x t k opt =
      if countOf f.fid x.callCount < f.failFirst then (bumpCall x f, [.raisedExc (.exn 0)])
      else ((generate cid x f).1, registeredVal (generate cid x f).1 k :: (generate cid x f).2) := by
  unfold ctxGet
  simp only [hs, hmiss, hf, hnp, hung, callFactory_eq]
  by_cases h : countOf f.fid x.callCount < f.failFirst <;> simp [h, generate]

theorem ctxGetNow_gen (cid : CtxId) (x : Ctx) (k : Key) (opt : Bool) (f : Factory)
    (hs : x.state.usable = true) (hmiss : alookup k x.res = none) (hf : alookup k x.fac = some f)
    (hnp : x.pending.find? (fun p => p.fid = f.fid) = none)
    (hung : (f.isAsync && f.gated) = false) :
    ctxGetNow cid x k opt =
      if countOf f.fid x.callCount < f.failFirst then (bumpCall x f, [.raisedExc (.exn 0)])
      else ((generate cid x f).1, registeredVal (generate cid x f).1 k :: (generate cid x f).2) := by
  unfold ctxGetNow
  simp only [hs, hmiss, hf, hnp, hung, callFactory_eq]
  by_cases h : countOf f.fid x.callCount < f.failFirst <;> simp [h, generate]

theorem lookup_hit (cid : CtxId) (x : Ctx) (k : Key) (opt : Bool) (cont : Container)
    (hs : x.state.usable = true) (hk : alookup k x.res = some cont) :
    ctxGetNowait cid x k opt = (x, [.val cont.val]) ∧ (∀ t, ctxGet cid x t k opt = (x, [.val cont.val])) ∧
      ctxGetNow cid x k opt = (x, [.val cont.val]) := by
  refine ⟨?_, fun t => ?_, ?_⟩
  · rw [ctxGetNowait, hs, hk]; rfl
  · rw [ctxGet, hs, hk]; rfl
  · rw [ctxGetNow, hs, hk]; rfl

theorem lookup_miss (cid : CtxId) (x : Ctx) (k : Key) (opt : Bool)
    (hs : x.state.usable = true) (hr : alookup k x.res = none) (hf : alookup k x.fac = none) :
    ctxGetNowait cid x k opt = (x, [if opt then .none else .notFound]) ∧
      ∀ t, ctxGet cid x t k opt = (x, [if opt then .none else .notFound]) := by
  refine ⟨?_, fun t => ?_⟩
  · rw [ctxGetNowait, hs, hr, hf]; rfl
  · rw [ctxGet, hs, hr, hf]; rfl

theorem ctxAdd_unusable (c : CtxId) (x : Ctx) (a : AddArgs) (h : x.state.usable = false) :
    ctxAdd c x a = (x, [.runtimeError x.state]) := by
  rw [ctxAdd, h]; rfl

theorem ctxGetNowait_unusable (c : CtxId) (x : Ctx) (k : Key) (opt : Bool) (h : x.state.usable = false) :
    ctxGetNowait c x k opt = (x, [.runtimeError x.state]) := by
  rw [ctxGetNowait, h]; rfl

theorem ctxGet_unusable (c : CtxId) (x : Ctx) (t : TaskId) (k : Key) (opt : Bool) (h : x.state.usable = false) :
    ctxGet c x t k opt = (x, [.runtimeError x.state]) := by
  rw [ctxGet, h]; rfl

theorem registeredVal_cases (x : Ctx) (k : Key) :
    (∃ v, registeredVal x k = .val v) ∨ registeredVal x k = .badOp := by
  unfold registeredVal
  split
  · exact .inl ⟨_, rfl⟩
  · exact .inr rfl

theorem usable_not_refused (cid : CtxId) (x : Ctx) (hu : x.state.usable = true) (s : CState) :
    (∀ a, (ctxAdd cid x a).2 ≠ [.runtimeError s]) ∧
    (∀ k opt, (ctxGetNowait cid x k opt).2 ≠ [.runtimeError s]) ∧
    (∀ t k opt, (ctxGet cid x t k opt).2 ≠ [.runtimeError s]) := by
  have hne : x.state.usable ≠ false := by rw [hu]; exact Bool.noConfusion
  refine ⟨fun a => ?_, fun k opt => ?_, fun t k opt => ?_⟩
  · rcases ctxAdd_cases cid x a with ⟨h, _⟩ | ⟨_, o, ho, h⟩ | ⟨_, v, _, _, h⟩
    · exact absurd h hne
    · rw [h]; rcases ho with rfl | rfl | rfl <;> simp
    · rw [h]; simp
  · apply ctxGetNowait_cases (fun r => r.2 ≠ [.runtimeError s]) <;> intros
    case h1 h => exact absurd h hne
    case h6 => cases opt <;> simp
    all_goals simp
  · apply ctxGet_cases (fun r => r.2 ≠ [.runtimeError s]) <;> intros
    case h1 h => exact absurd h hne
    case h5 => rcases registeredVal_cases (generate cid x _).1 k with ⟨v, h⟩ | h <;> rw [h] <;> simp
    case h6 => cases opt <;> simp
    all_goals simp

theorem ctxGetNow_cases (cid : CtxId) (x : Ctx) (k : Key) (opt : Bool) :
    (ctxGetNow cid x k opt = (x, [.blocked]) ∧ ∀ t, (ctxGet cid x t k opt).2 = [.blocked]) ∨
    (∀ t, ctxGetNow cid x k opt = ctxGet cid x t k opt) := by
  unfold ctxGetNow ctxGet
  cases x.state.usable with
  | false => exact .inr fun _ => rfl
  | true =>
    cases alookup k x.res with
    | some cont => exact .inr fun _ => rfl
    | none =>
      cases alookup k x.fac with
      | none => exact .inr fun _ => rfl
      | some f =>
        dsimp only
        cases x.pending.find? (fun p => p.fid = f.fid) with
        | some p => exact .inl ⟨rfl, fun _ => rfl⟩
        | none =>
          cases (f.isAsync && f.gated) with
          | true => exact .inl ⟨rfl, fun _ => rfl⟩
          | false => exact .inr fun _ => rfl

theorem ctxGetNow_transfer (P : Ctx × List Out → Prop) (cid : CtxId) (x : Ctx) (k : Key) (opt : Bool)
    (h0 : P (x, [.blocked])) (h1 : ∀ t, P (ctxGet cid x t k opt)) : P (ctxGetNow cid x k opt) := by
  rcases ctxGetNow_cases cid x k opt with ⟨e, _⟩ | e
  · rw [e]; exact h0
  · rw [e 0]; exact h1 0

/-! ### generations in flight: resuming the waiters, finishing, giving up -/

theorem resumeWaiters_cons_fst (cid : CtxId) (x : Ctx) (t : TaskId) (k : Key) (opt : Bool)
    (rest : List (TaskId × Key × Bool)) :
    (resumeWaiters cid x ((t, k, opt) :: rest)).1 =
      (resumeWaiters cid (ctxGet cid x t k opt).1 rest).1 := by
  simp only [resumeWaiters]

theorem resumeWaiters_keeps {P : Ctx → Prop} (cid : CtxId) (ws : List (TaskId × Key × Bool))
    (h : ∀ w ∈ ws, ∀ x, P x → P (ctxGet cid x w.1 w.2.1 w.2.2).1) :
    ∀ x, P x → P (resumeWaiters cid x ws).1 := by
  induction ws with
  | nil => exact fun _ hx => hx
  | cons w ws ih =>
    intro x hx
    rw [resumeWaiters_cons_fst]
    exact ih (fun w' hw' => h w' (List.mem_cons_of_mem _ hw')) _ (h w List.mem_cons_self x hx)

theorem resumeWaiters_cons_snd_blocked (cid : CtxId) (x : Ctx) (t : TaskId) (k : Key) (opt : Bool)
    (rest : List (TaskId × Key × Bool)) (h : (ctxGet cid x t k opt).2 = [.blocked]) :
    (resumeWaiters cid x ((t, k, opt) :: rest)).2 =
      (resumeWaiters cid (ctxGet cid x t k opt).1 rest).2 := by
  simp only [resumeWaiters, h, if_true]

theorem resumeWaiters_cons_snd_other (cid : CtxId) (x : Ctx) (t : TaskId) (k : Key) (opt : Bool)
    (rest : List (TaskId × Key × Bool)) (h : (ctxGet cid x t k opt).2 ≠ [.blocked]) :
    (resumeWaiters cid x ((t, k, opt) :: rest)).2 =
      .task t (ctxGet cid x t k opt).2 :: (resumeWaiters cid (ctxGet cid x t k opt).1 rest).2 := by
  -- `h` is used: `simp` takes it from the context to decide the test for `[.blocked]` in `resumeWaiters`
  simp only [resumeWaiters, Bool.false_eq_true, if_false]

def dropGen (x : Ctx) (fid : Nat) : Ctx :=
  { x with pending := x.pending.filter fun q => q.fid ≠ fid }

def dropWaiter (x : Ctx) (lid : TaskId) : Ctx :=
  { x with pending := x.pending.map fun p => { p with waiters := p.waiters.filter (fun w => w.1 ≠ lid) } }

/-- The context after `ctxGenFinish`: nothing was pending; the factory is gone (the entry is dropped); the
generation failed and the waiters are resumed; the product is stored and the waiters are resumed. -/
theorem ctxGenFinish_fst (cid : CtxId) (x : Ctx) (fid : Nat) (next : Option TaskId) :
    (ctxGenFinish cid x fid next).1 = x ∨
    ∃ p0, x.pending.find? (fun p => p.fid = fid) = some p0 ∧
      ((ctxGenFinish cid x fid next).1 = dropGen x fid ∨
       ∃ f, alookup p0.key x.fac = some f ∧
        ((ctxGenFinish cid x fid next).1 =
          (resumeWaiters cid (dropGen x fid) (wakeOrder next p0.waiters)).1 ∨
         ∃ v, (ctxGenFinish cid x fid next).1 =
          (resumeWaiters cid (storeGenerated cid (dropGen x fid) f v).1 (wakeOrder next p0.waiters)).1)) := by
  fun_cases ctxGenFinish cid x fid next with
  | case1 => exact .inl rfl
  | case2 p0 hp => exact .inr ⟨p0, hp, .inl rfl⟩
  | case3 p0 hp _ _ f hf _ _ x' os hw => exact .inr ⟨p0, hp, .inr ⟨f, hf, .inl (congrArg Prod.fst hw).symm⟩⟩
  | case4 p0 hp _ _ f hf _ _ x' evs hg x'' os hw =>
    cases congrArg Prod.fst hg
    exact .inr ⟨p0, hp, .inr ⟨f, hf, .inr ⟨_, (congrArg Prod.fst hw).symm⟩⟩⟩

theorem ctxCancelGet_runner (cid : CtxId) (x : Ctx) (lid : TaskId) (next : Option TaskId) (p : Pending)
    (hp : x.pending.find? (fun q => q.task = lid) = some p) :
    ctxCancelGet cid x lid next =
      ((resumeWaiters cid (dropGen x p.fid) (wakeOrder next p.waiters)).1,
       .task lid [.raisedExc .cancelled] ::
         (resumeWaiters cid (dropGen x p.fid) (wakeOrder next p.waiters)).2) := by
  unfold ctxCancelGet
  rw [hp]
  rfl

theorem ctxCancelGet_waiter (cid : CtxId) (x : Ctx) (lid : TaskId) (next : Option TaskId)
    (hnp : x.pending.find? (fun q => q.task = lid) = none) :
    ctxCancelGet cid x lid next =
      if x.pending.any (fun p => p.waiters.any (fun w => w.1 = lid)) then
        (dropWaiter x lid, [.task lid [.raisedExc .cancelled]])
      else (x, [.badOp]) := by
  unfold ctxCancelGet
  rw [hnp]
  rfl

/-! ### `@inject` and teardown -/

/-- The lookup an injected parameter stands for. -/
def depLookup (cid : CtxId) (isAsync : Bool) (t : TaskId) (x : Ctx) (d : Dep) : Ctx × List Out :=
  if isAsync then ctxGet cid x t d.key d.optional else ctxGetNowait cid x d.key d.optional

theorem resolveDeps_cons (cid : CtxId) (isAsync : Bool) (t : TaskId) (x : Ctx) (d : Dep)
    (ds : List Dep) :
    resolveDeps cid isAsync t x (d :: ds) =
      match (depLookup cid isAsync t x d).2 with
      | .val v :: evs =>
        ((resolveDeps cid isAsync t (depLookup cid isAsync t x d).1 ds).1,
          .arg d.param (some v) :: evs ++ (resolveDeps cid isAsync t (depLookup cid isAsync t x d).1 ds).2.1,
          (resolveDeps cid isAsync t (depLookup cid isAsync t x d).1 ds).2.2)
      | [.none] =>
        ((resolveDeps cid isAsync t (depLookup cid isAsync t x d).1 ds).1,
          .arg d.param none :: (resolveDeps cid isAsync t (depLookup cid isAsync t x d).1 ds).2.1,
          (resolveDeps cid isAsync t (depLookup cid isAsync t x d).1 ds).2.2)
      | other => ((depLookup cid isAsync t x d).1, other, false) := by
  rw [resolveDeps]
  rfl

theorem resolveDeps_keeps {P : Ctx → Prop} (cid : CtxId) (isAsync : Bool) (t : TaskId) (ds : List Dep)
    (h : ∀ x d, P x → P (depLookup cid isAsync t x d).1) :
    ∀ x, P x → P (resolveDeps cid isAsync t x ds).1 := by
  induction ds with
  | nil => exact fun _ hx => hx
  | cons d ds ih =>
    intro x hx
    have hl := h x d hx
    rw [resolveDeps_cons]
    split
    · exact ih _ hl
    · exact ih _ hl
    · exact hl

theorem runTeardown_nil (cid : CtxId) (cur : Option CtxId) (be : BlockEnd) (x : Ctx) :
    runTeardown cid cur be [] x = (x, [], []) := by
  rw [runTeardown]

theorem runTeardown_cons (cid : CtxId) (cur : Option CtxId) (be : BlockEnd) (id : Nat) (p a : Bool)
    (body : List BodyOp) (regs : List Cb) (r : Option Exc) (stack : List Cb) (x : Ctx) :
    runTeardown cid cur be (Cb.mk id p a body regs r :: stack) x =
      ((runTeardown cid cur be (regs.reverse ++ stack) (runBody cid cur x body).1).1,
       .tdStart id (if p then some be.exc else Option.none) ::
         (if (runBody cid cur x body).2.isEmpty then [] else [.body (runBody cid cur x body).2]) ++
           .tdEnd id r :: (runTeardown cid cur be (regs.reverse ++ stack) (runBody cid cur x body).1).2.1,
       (match r with
        | some e => e :: (runTeardown cid cur be (regs.reverse ++ stack) (runBody cid cur x body).1).2.2
        | Option.none => (runTeardown cid cur be (regs.reverse ++ stack) (runBody cid cur x body).1).2.2)) := by
  rw [runTeardown]
  rfl

/-- Induction along the recursion of `runTeardown`. -/
theorem stack_induction {motive : List Cb → Prop}
    (nil : motive [])
    (cons : ∀ id p a body regs r stack, motive (regs.reverse ++ stack) →
      motive (Cb.mk id p a body regs r :: stack))
    (st : List Cb) : motive st := by
  generalize hn : stackSize st = n
  induction n using Nat.strongRecOn generalizing st with
  | _ n ih =>
    match st with
    | [] => exact nil
    | Cb.mk id p a body regs r :: stack =>
      apply cons
      apply ih _ ?_ _ rfl
      subst hn
      simp only [stackSize_cons, stackSize_append, stackSize_reverse, Cb.size_mk]
      omega

theorem runBody_keeps {P : Ctx → Prop} (cid : CtxId) (cur : Option CtxId)
    (hop : ∀ x op, P x → P (runBodyOp cid cur x op).1) (ops : List BodyOp) :
    ∀ x, P x → P (runBody cid cur x ops).1 := by
  induction ops with
  | nil => exact fun _ hx => hx
  | cons op ops ih => exact fun x hx => ih _ (hop x op hx)

theorem runTeardown_keeps {P : Ctx → Prop} (cid : CtxId) (cur : Option CtxId)
    (hop : ∀ x op, P x → P (runBodyOp cid cur x op).1) (be : BlockEnd) (st : List Cb) :
    ∀ x, P x → P (runTeardown cid cur be st x).1 := by
  induction st using stack_induction with
  | nil => intro x hx; rw [runTeardown_nil]; exact hx
  | cons id p a body regs r stack ih =>
    intro x hx
    rw [runTeardown_cons]
    exact ih _ (runBody_keeps cid cur hop body x hx)

/-! ### relations between the context before and after -/

/-- A reflexive and transitive relation on contexts that holds across the three updates a lookup is made of:
counting a factory call, storing a generated product, editing the table of generations in flight. (`cid` only
names the context in `storeGenerated`'s outputs; the resulting context does not depend on it.) -/
structure Closed (cid : CtxId) (R : Ctx → Ctx → Prop) : Prop where
  refl : ∀ x, R x x
  trans : ∀ {x y z}, R x y → R y z → R x z
  bump : ∀ x f, R x (bumpCall x f)
  store : ∀ x f v, R x (storeGenerated cid x f v).1
  pending : ∀ x p, R x { x with pending := p }

namespace Closed
variable {cid : CtxId} {R : Ctx → Ctx → Prop} (h : Closed cid R)
include h

theorem generate (x : Ctx) (f : Factory) : R x (generate cid x f).1 :=
  h.trans (h.bump x f) (h.store _ f _)

theorem ctxGetNowait (x : Ctx) (k : Key) (opt : Bool) : R x (ctxGetNowait cid x k opt).1 := by
  apply ctxGetNowait_cases (fun r => R x r.1)
  · intro _; exact h.refl x
  · intro _ _ _; exact h.refl x
  · intro _ _ _ _ _; exact h.refl x
  · intro f _ _ _ _ _; exact h.bump x f
  · intro f _ _ _ _ _; exact h.generate x f
  · intro _ _ _; exact h.refl x

theorem ctxGet (x : Ctx) (t : TaskId) (k : Key) (opt : Bool) : R x (ctxGet cid x t k opt).1 := by
  apply ctxGet_cases (fun r => R x r.1)
  · intro _; exact h.refl x
  · intro _ _ _; exact h.refl x
  · intro f _ _ _ _ _; exact h.pending x _
  · intro f _ _ _ _ _; exact h.trans (h.bump x f) (h.pending _ _)
  · intro f _ _ _ _ _ _; exact h.bump x f
  · intro f _ _ _ _ _ _; exact h.generate x f
  · intro _ _ _; exact h.refl x

theorem ctxGetNow (x : Ctx) (k : Key) (opt : Bool) : R x (ctxGetNow cid x k opt).1 :=
  ctxGetNow_transfer (fun r => R x r.1) cid x k opt (h.refl x) (fun t => h.ctxGet x t k opt)

theorem resumeWaiters (ws : List (TaskId × Key × Bool)) (x : Ctx) : R x (resumeWaiters cid x ws).1 :=
  resumeWaiters_keeps (P := R x) cid ws (fun w _ y hy => h.trans hy (h.ctxGet y w.1 w.2.1 w.2.2)) x (h.refl x)

theorem ctxGenFinish (x : Ctx) (fid : Nat) (next : Option TaskId) :
    R x (ctxGenFinish cid x fid next).1 := by
  rcases ctxGenFinish_fst cid x fid next with e | ⟨p0, _, e | ⟨f, _, e | ⟨v, e⟩⟩⟩ <;> rw [e]
  · exact h.refl x
  · exact h.pending x _
  · exact h.trans (h.pending x _) (h.resumeWaiters _ _)
  · exact h.trans (h.pending x _) (h.trans (h.store _ f v) (h.resumeWaiters _ _))

theorem ctxCancelGet (x : Ctx) (lid : TaskId) (next : Option TaskId) :
    R x (ctxCancelGet cid x lid next).1 := by
  fun_cases Asphalt.ctxCancelGet cid x lid next with
  | case1 p _ _ _ x' os hw =>
    cases congrArg Prod.fst hw
    exact h.trans (h.pending x _) (h.resumeWaiters _ _)
  | case2 => exact h.pending x _
  | case3 => exact h.refl x

theorem depLookup (isAsync : Bool) (t : TaskId) (x : Ctx) (d : Dep) :
    R x (depLookup cid isAsync t x d).1 := by
  unfold Asphalt.depLookup
  split
  · exact h.ctxGet _ _ _ _
  · exact h.ctxGetNowait _ _ _

theorem resolveDeps (isAsync : Bool) (t : TaskId) (ds : List Dep) (x : Ctx) :
    R x (resolveDeps cid isAsync t x ds).1 :=
  resolveDeps_keeps (P := R x) cid isAsync t ds (fun y d hy => h.trans hy (h.depLookup isAsync t y d)) x
    (h.refl x)

/-- With `add_resource` and `add_resource_factory` as a teardown callback body calls them. -/
theorem runBodyOp (hadd : ∀ x a, a.td = none → R x (ctxAdd cid x a).1)
    (hfac : ∀ x a, R x (ctxAddFactory cid x a).1) (cur : Option CtxId) (x : Ctx) (op : BodyOp) :
    R x (runBodyOp cid cur x op).1 := by
  cases op with
  | add types name v => exact hadd x _ rfl
  | addFactory types name fid => exact hfac x _
  | getNowait ty name opt => exact h.ctxGetNowait x _ opt
  | get ty name opt => exact h.ctxGetNow x _ opt
  | current => exact h.refl x

theorem runTeardown (hadd : ∀ x a, a.td = none → R x (ctxAdd cid x a).1)
    (hfac : ∀ x a, R x (ctxAddFactory cid x a).1) (cur : Option CtxId) (be : BlockEnd) (st : List Cb)
    (x : Ctx) : R x (runTeardown cid cur be st x).1 :=
  runTeardown_keeps (P := R x) cid cur (fun y op hy => h.trans hy (h.runBodyOp hadd hfac cur y op)) be st x
    (h.refl x)

end Closed

end Asphalt
