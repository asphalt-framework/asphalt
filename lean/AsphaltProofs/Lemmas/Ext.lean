/-
`Ext x x'`: what every context-level operation leaves alone (the lifecycle fields) and what it only ever
extends (the two tables, which stay functional). Across a teardown the callback stack is left alone too.
-/
import AsphaltProofs.Lemmas.Ops

namespace Asphalt

structure Ext (x x' : Ctx) : Prop where
  state : x'.state = x.state
  parent : x'.parent = x.parent
  children : x'.children = x.children
  token : x'.token = x.token
  res : ∀ k c, alookup k x.res = some c → alookup k x'.res = some c
  fac : ∀ k f, alookup k x.fac = some f → alookup k x'.fac = some f
  ndr : NoDupKeys x.res → NoDupKeys x'.res
  ndf : NoDupKeys x.fac → NoDupKeys x'.fac

theorem Ext.of_eq {x y : Ctx} (hs : y.state = x.state) (hp : y.parent = x.parent) (hc : y.children = x.children)
    (ht : y.token = x.token) (hr : y.res = x.res) (hf : y.fac = x.fac) : Ext x y :=
  ⟨hs, hp, hc, ht, fun _ _ h => hr ▸ h, fun _ _ h => hf ▸ h, fun h => hr ▸ h, fun h => hf ▸ h⟩

theorem Ext.refl (x : Ctx) : Ext x x := .of_eq rfl rfl rfl rfl rfl rfl

theorem Ext.trans {x y z : Ctx} (h1 : Ext x y) (h2 : Ext y z) : Ext x z :=
  ⟨h2.state.trans h1.state, h2.parent.trans h1.parent, h2.children.trans h1.children,
   h2.token.trans h1.token, fun k c h => h2.res k c (h1.res k c h),
   fun k f h => h2.fac k f (h1.fac k f h), fun h => h2.ndr (h1.ndr h), fun h => h2.ndf (h1.ndf h)⟩

theorem Ext.res_isSome {x y : Ctx} (h : Ext x y) (k : Key) (hk : (alookup k x.res).isSome = true) :
    (alookup k y.res).isSome = true := by
  obtain ⟨c, hc⟩ := Option.isSome_iff_exists.mp hk
  rw [h.res k c hc]; rfl

theorem ctxAdd_ext (cid : CtxId) (x : Ctx) (a : AddArgs) : Ext x (ctxAdd cid x a).1 := by
  rcases ctxAdd_cases cid x a with ⟨_, h⟩ | ⟨_, o, _, h⟩ | ⟨_, v, _, hfree, h⟩ <;> rw [h]
  · exact Ext.refl x
  · exact Ext.refl x
  · exact ⟨rfl, rfl, rfl, rfl, storeAll_isStore.keep _ _ _ _ (free_of_any_false hfree),
      fun _ _ h => h, storeAll_isStore.noDup _ _ _ _, id⟩

theorem ctxAddFactory_ext (cid : CtxId) (x : Ctx) (a : FacArgs) :
    Ext x (ctxAddFactory cid x a).1 := by
  rcases ctxAddFactory_cases cid x a with ⟨_, h⟩ | ⟨_, o, _, h⟩ | ⟨_, hfree, _, h⟩ <;> rw [h]
  · exact Ext.refl x
  · exact Ext.refl x
  · exact ⟨rfl, rfl, rfl, rfl, fun _ _ h => h,
      storeFac_isStore.keep _ _ _ _ (free_of_any_false hfree), id, storeFac_isStore.noDup _ _ _ _⟩

theorem storeGenerated_ext (cid : CtxId) (x : Ctx) (f : Factory) (v : Val) :
    Ext x (storeGenerated cid x f v).1 := by
  rcases storeGenerated_cases cid x f v with ⟨_, h⟩ | ⟨_, h⟩ <;> rw [h] <;>
  exact ⟨rfl, rfl, rfl, rfl, storeAll_isStore.keep _ _ _ _ (freeTypes_free x f),
    fun _ _ h => h, storeAll_isStore.noDup _ _ _ _, id⟩

theorem ext_closed (cid : CtxId) : Closed cid Ext :=
  ⟨Ext.refl, Ext.trans, fun _ _ => .of_eq rfl rfl rfl rfl rfl rfl, storeGenerated_ext cid,
   fun _ _ => .of_eq rfl rfl rfl rfl rfl rfl⟩

theorem runBodyOp_ext (cid : CtxId) (cur : Option CtxId) (x : Ctx) (op : BodyOp) :
    Ext x (runBodyOp cid cur x op).1 :=
  (ext_closed cid).runBodyOp (fun x a _ => ctxAdd_ext cid x a) (ctxAddFactory_ext cid) cur x op

theorem runTeardown_ext (cid : CtxId) (cur : Option CtxId) (be : BlockEnd) (st : List Cb) (x : Ctx) :
    Ext x (runTeardown cid cur be st x).1 :=
  (ext_closed cid).runTeardown (fun x a _ => ctxAdd_ext cid x a) (ctxAddFactory_ext cid) cur be st x

/-- Callback bodies register no callbacks: the stack of the context (emptied before the teardown begins)
is as it was. -/
theorem runTeardown_tds (cid : CtxId) (cur : Option CtxId) (be : BlockEnd) (st : List Cb) (x : Ctx) :
    (runTeardown cid cur be st x).1.tds = x.tds := by
  refine Closed.runTeardown (R := fun x y => y.tds = x.tds)
    ⟨fun _ => rfl, fun h1 h2 => h2.trans h1, fun _ _ => rfl, fun x f v => ?_, fun _ _ => rfl⟩
    (fun x a ha => ?_) (fun x a => ?_) cur be st x
  · rcases storeGenerated_cases cid x f v with ⟨_, h⟩ | ⟨_, h⟩ <;> rw [h]
  · rcases ctxAdd_cases cid x a with ⟨_, h⟩ | ⟨_, o, _, h⟩ | ⟨_, v, _, _, h⟩ <;> rw [h]
    show (match a.td with | some cb => cb :: x.tds | none => x.tds) = x.tds
    rw [ha]
  · rcases ctxAddFactory_cases cid x a with ⟨_, h⟩ | ⟨_, o, _, h⟩ | ⟨_, _, _, h⟩ <;> rw [h]

end Asphalt
