/- The per-context invariant `KInv` behind "a factory generates at most once per context" (C04), kept by every
operation of a context and lifted to every reachable world by `reachable_ctx`. -/
import AsphaltProofs.Lemmas.World

namespace Asphalt
namespace K2

theorem countOf_nil (fid : Nat) : countOf fid [] = 0 := rfl

/-- `facwf` and `gendone` are literally `FacWF x.fac` and `GenDone x` of `Props/C04.lean`. -/
structure KInv (x : Ctx) : Prop where
  facwf : (∀ k f, alookup k x.fac = some f → f.name = k.name ∧ k.ty ∈ f.types ∧
      ∀ t ∈ f.types, alookup ⟨t, f.name⟩ x.fac = some f) ∧
    (∀ k k' f f', alookup k x.fac = some f → alookup k' x.fac = some f' → f.fid = f'.fid → f = f')
  gendone : ∀ k f, alookup k x.fac = some f → 1 ≤ countOf f.fid x.genCount →
    (alookup k x.res).isSome = true
  once : ∀ fid, countOf fid x.genCount ≤ 1
  known : ∀ fid, 1 ≤ countOf fid x.genCount → ∃ k f, alookup k x.fac = some f ∧ f.fid = fid
  pend : ∀ p ∈ x.pending, ∃ f, alookup p.key x.fac = some f ∧ f.fid = p.fid ∧ f.isAsync = true ∧
    countOf p.fid x.genCount = 0

theorem KInv.congr {x y : Ctx} (h : KInv x) (hf : y.fac = x.fac) (hr : y.res = x.res)
    (hg : y.genCount = x.genCount) (hp : y.pending = x.pending) : KInv y := by
  constructor
  · rw [hf]; exact h.facwf
  · rw [hf, hg, hr]; exact h.gendone
  · rw [hg]; exact h.once
  · rw [hf, hg]; exact h.known
  · rw [hf, hg, hp]; exact h.pend

theorem KInv.bumpCall {x : Ctx} (h : KInv x) (f : Factory) : KInv (bumpCall x f) :=
  h.congr rfl rfl rfl rfl

theorem KInv.setPending {x : Ctx} (h : KInv x) (ps : List Pending)
    (hps : ∀ q ∈ ps, ∃ f, alookup q.key x.fac = some f ∧ f.fid = q.fid ∧ f.isAsync = true ∧
      countOf q.fid x.genCount = 0) : KInv { x with pending := ps } :=
  ⟨h.facwf, h.gendone, h.once, h.known, hps⟩

theorem KInv.dropGen {x : Ctx} (h : KInv x) (fid : Nat) : KInv (dropGen x fid) :=
  h.setPending _ fun q hq => h.pend q (List.mem_filter.mp hq).1

theorem KInv.ctxAdd {x : Ctx} (h : KInv x) (cid : CtxId) (a : AddArgs) : KInv (ctxAdd cid x a).1 := by
  have hx := ctxAdd_ext cid x a
  rcases ctxAdd_cases cid x a with ⟨_, e⟩ | ⟨_, o, _, e⟩ | ⟨_, v, _, _, e⟩ <;> rw [e] at hx ⊢
  · exact h
  · exact h
  · exact ⟨h.facwf, fun k f hk hc => hx.res_isSome k (h.gendone k f hk hc), h.once, h.known, h.pend⟩

theorem storeGenerated_taken (cid : CtxId) (x : Ctx) (f : Factory) (v : Val) (ty : TypeId) (hty : ty ∈ f.types) :
    (alookup ⟨ty, f.name⟩ (storeGenerated cid x f v).1.res).isSome = true := by
  cases hm : alookup ⟨ty, f.name⟩ x.res with
  | none => rw [storeGenerated_stores cid x f v ty (mem_freeTypes.mpr ⟨hty, hm⟩)]; rfl
  | some c => exact (storeGenerated_ext cid x f v).res_isSome _ (by rw [hm]; rfl)

theorem KInv.storeGenerated {x : Ctx} (h : KInv x) (cid : CtxId) (f : Factory) (v : Val) (k0 : Key)
    (hf : alookup k0 x.fac = some f) (h0 : countOf f.fid x.genCount = 0)
    (hp : ∀ p ∈ x.pending, p.fid ≠ f.fid) : KInv (storeGenerated cid x f v).1 := by
  obtain ⟨e1, e2, _, e3, _⟩ := storeGenerated_fields cid x f v
  constructor
  · rw [e1]; exact h.facwf
  · rw [e1, e3]
    intro k g hk hc
    by_cases hfid : f.fid = g.fid
    · -- the factory that has just generated (ids identify factories): all of its pairs are taken now
      obtain rfl : f = g := h.facwf.2 k0 k f g hf hk hfid
      obtain ⟨hn, hty, _⟩ := h.facwf.1 k f hk
      have := storeGenerated_taken cid x f v k.ty hty
      rwa [hn] at this
    · rw [countOf_ainsert, if_neg hfid] at hc
      exact (storeGenerated_ext cid x f v).res_isSome k (h.gendone k g hk hc)
  · rw [e3]; intro fid
    rw [countOf_ainsert]
    split
    · omega
    · exact h.once fid
  · rw [e1, e3]; intro fid hc
    by_cases hfid : f.fid = fid
    · exact ⟨k0, f, hf, hfid⟩
    · rw [countOf_ainsert, if_neg hfid] at hc
      exact h.known fid hc
  · rw [e1, e2, e3]; intro p hpm
    obtain ⟨g, hg1, hg2, hg3, hg4⟩ := h.pend p hpm
    refine ⟨g, hg1, hg2, hg3, ?_⟩
    rw [countOf_ainsert, if_neg (fun e => hp p hpm e.symm)]
    exact hg4

theorem KInv.storeFac {x : Ctx} (h : KInv x) (f : Factory) (evs : List REvent)
    (hfree : ∀ t ∈ f.types, alookup ⟨t, f.name⟩ x.fac = none)
    (hid : ∀ k g, alookup k x.fac = some g → g.fid ≠ f.fid) :
    KInv { x with fac := storeFac f f.name f.types x.fac, events := evs } := by
  have old : ∀ k g, alookup k x.fac = some g →
      alookup k (Asphalt.storeFac f f.name f.types x.fac) = some g :=
    storeFac_isStore.keep f f.name f.types x.fac hfree
  have inv : ∀ k g, alookup k (Asphalt.storeFac f f.name f.types x.fac) = some g →
      g = f ∨ alookup k x.fac = some g := by
    intro k g hk
    rw [storeFac_isStore.lookup] at hk
    split at hk
    · exact .inl (Option.some.inj hk).symm
    · exact .inr hk
  refine ⟨⟨?_, fun k k' g g' hk hk' hfid => ?_⟩, fun k g hk hc => ?_, h.once, fun fid hc => ?_, fun p hp => ?_⟩
  · exact storeFac_isStore.tableWF (name := Factory.name) (types := Factory.types) h.facwf.1 f hfree
  · rcases inv k g hk with rfl | hold <;> rcases inv k' g' hk' with rfl | hold'
    · rfl
    · exact absurd hfid.symm (hid k' g' hold')
    · exact absurd hfid (hid k g hold)
    · exact h.facwf.2 k k' g g' hold hold' hfid
  · -- a factory that has generated is known, so it is not the new one
    rcases inv k g hk with rfl | hold
    · obtain ⟨k', g', hk', hg'⟩ := h.known _ hc
      exact absurd hg' (hid k' g' hk')
    · exact h.gendone k g hold hc
  · obtain ⟨k, g, hk, hg⟩ := h.known fid hc
    exact ⟨k, g, old k g hk, hg⟩
  · obtain ⟨g, hg1, hg2⟩ := h.pend p hp
    exact ⟨g, old _ _ hg1, hg2⟩

theorem KInv.ctxAddFactory {x : Ctx} (h : KInv x) (cid : CtxId) (a : FacArgs) :
    KInv (ctxAddFactory cid x a).1 := by
  rcases ctxAddFactory_cases cid x a with ⟨_, e⟩ | ⟨_, o, _, e⟩ | ⟨_, hfree, hid, e⟩ <;> rw [e]
  · exact h
  · exact h
  · refine h.storeFac ⟨a.fid, a.types, a.name, a.desc, a.isAsync, a.gated, a.failFirst⟩ _
      (free_of_any_false hfree) (fun k g hk => ?_)
    simpa using List.any_eq_false.mp hid (k, g) (alookup_mem _ _ _ hk)

theorem KInv.count_zero_of_miss {x : Ctx} (h : KInv x) (k : Key) (f : Factory)
    (hmiss : alookup k x.res = none) (hf : alookup k x.fac = some f) :
    countOf f.fid x.genCount = 0 := by
  apply Nat.eq_zero_of_not_pos
  intro hc
  have := h.gendone k f hf hc
  rw [hmiss] at this
  cases this

theorem KInv.ctxGetNowait {x : Ctx} (h : KInv x) (cid : CtxId) (k : Key) (opt : Bool) :
    KInv (ctxGetNowait cid x k opt).1 := by
  apply ctxGetNowait_cases (fun r => KInv r.1)
  · intro _; exact h
  · intro _ _ _; exact h
  · intro _ _ _ _ _; exact h
  · intro f _ _ _ _ _; exact h.bumpCall f
  · intro f _ hmiss hf hsync _
    refine (h.bumpCall f).storeGenerated cid f _ k hf (h.count_zero_of_miss k f hmiss hf) ?_
    -- a generation in flight belongs to an asynchronous factory, and `f` is synchronous
    intro p hp hpf
    obtain ⟨g, hg1, hg2, hg3, _⟩ := h.pend p hp
    have : g = f := h.facwf.2 _ _ g f hg1 hf (hg2.trans hpf)
    subst this
    rw [hsync] at hg3; cases hg3
  · intro _ _ _; exact h

theorem KInv.ctxGet {x : Ctx} (h : KInv x) (cid : CtxId) (t : TaskId) (k : Key) (opt : Bool) :
    KInv (ctxGet cid x t k opt).1 := by
  apply ctxGet_cases (fun r => KInv r.1)
  · intro _; exact h
  · intro _ _ _; exact h
  · intro f p _ _ _ _
    refine h.setPending _ fun q hq => ?_
    obtain ⟨p, hp, rfl⟩ := List.mem_map.mp hq
    split <;> exact h.pend p hp
  · intro f _ hmiss hf _ hg
    refine (h.bumpCall f).setPending _ fun q hq => ?_
    rcases List.mem_append.mp hq with hq | hq
    · exact h.pend q hq
    · rw [List.mem_singleton.mp hq]
      exact ⟨f, hf, rfl, (Bool.and_eq_true_iff.mp hg).1, h.count_zero_of_miss k f hmiss hf⟩
  · intro f _ _ _ _ _ _; exact h.bumpCall f
  · intro f _ hmiss hf hnp _ _
    refine (h.bumpCall f).storeGenerated cid f _ k hf (h.count_zero_of_miss k f hmiss hf) ?_
    intro p hp hpf
    exact List.find?_eq_none.mp hnp p hp (decide_eq_true hpf)
  · intro _ _ _; exact h

theorem KInv.resumeWaiters (cid : CtxId) (ws : List (TaskId × Key × Bool)) :
    ∀ {x : Ctx}, KInv x → KInv (resumeWaiters cid x ws).1 :=
  fun {x} => resumeWaiters_keeps cid ws (fun w _ _ h => h.ctxGet cid w.1 w.2.1 w.2.2) x

theorem KInv.ctxGenFinish {x : Ctx} (h : KInv x) (cid : CtxId) (fid : Nat) (next : Option TaskId) :
    KInv (ctxGenFinish cid x fid next).1 := by
  rcases ctxGenFinish_fst cid x fid next with e | ⟨p0, hp0, e | ⟨f, hf, e | ⟨v, e⟩⟩⟩ <;> rw [e]
  · exact h
  · exact h.dropGen fid
  · exact (h.dropGen fid).resumeWaiters cid _
  · -- the entry that is taken out was the one generation of `f` in flight
    obtain ⟨g, hg1, hg2, _, hg4⟩ := h.pend p0 (List.mem_of_find?_eq_some hp0)
    obtain rfl : g = f := Option.some.inj (hg1.symm.trans hf)
    have h0 := List.find?_some hp0
    refine KInv.resumeWaiters cid _ ((h.dropGen fid).storeGenerated cid g v p0.key hf (hg2 ▸ hg4) ?_)
    intro p hp hpf
    exact of_decide_eq_true (List.mem_filter.mp hp).2 (hpf.trans (hg2.trans (of_decide_eq_true h0)))

theorem KInv.ctxCancelGet {x : Ctx} (h : KInv x) (cid : CtxId) (lid : TaskId) (next : Option TaskId) :
    KInv (ctxCancelGet cid x lid next).1 := by
  fun_cases Asphalt.ctxCancelGet cid x lid next with
  | case1 p0 _ _ _ x' os hw =>
    cases congrArg Prod.fst hw
    exact (h.dropGen p0.fid).resumeWaiters cid _
  | case2 =>
    refine h.setPending _ fun q hq => ?_
    obtain ⟨p, hp, rfl⟩ := List.mem_map.mp hq
    exact h.pend p hp
  | case3 => exact h

theorem KInv.ctxGetNow {x : Ctx} (h : KInv x) (cid : CtxId) (k : Key) (opt : Bool) :
    KInv (ctxGetNow cid x k opt).1 :=
  ctxGetNow_transfer (fun r => KInv r.1) cid x k opt h (fun t => h.ctxGet cid t k opt)

theorem KInv.runBodyOp {x : Ctx} (h : KInv x) (cid : CtxId) (cur : Option CtxId) (op : BodyOp) :
    KInv (runBodyOp cid cur x op).1 := by
  cases op with
  | add => exact h.ctxAdd _ _
  | addFactory => exact h.ctxAddFactory _ _
  | getNowait => exact h.ctxGetNowait _ _ _
  | get => exact h.ctxGetNow _ _ _
  | current => exact h

theorem KInv.runTeardown {x : Ctx} (h : KInv x) (cid : CtxId) (cur : Option CtxId) (be : BlockEnd) (st : List Cb) :
    KInv (runTeardown cid cur be st x).1 :=
  runTeardown_keeps cid cur (fun _ op h => h.runBodyOp cid cur op) be st x h

theorem KInv.resolveDeps (cid : CtxId) (isAsync : Bool) (t : TaskId) (ds : List Dep) :
    ∀ {x : Ctx}, KInv x → KInv (resolveDeps cid isAsync t x ds).1 := by
  refine fun {x} => resolveDeps_keeps cid isAsync t ds (fun x d h => ?_) x
  unfold depLookup
  split
  · exact h.ctxGet _ _ _ _
  · exact h.ctxGetNowait _ _ _

theorem LocalStep.kinv {w : World} {op : Op} {c : CtxId} {x y : Ctx} (hl : LocalStep w op c x y)
    (h : KInv x) : KInv y := by
  cases hl with
  | add => exact h.ctxAdd _ _
  | addFactory => exact h.ctxAddFactory _ _
  | getNowait => exact h.ctxGetNowait _ _ _
  | get => exact h.ctxGet _ _ _ _
  | genFinish => exact h.ctxGenFinish _ _ _
  | cancelGet => exact h.ctxCancelGet _ _ _
  | addTeardown => exact h.congr rfl rfl rfl rfl
  | inject => exact KInv.resolveDeps _ _ _ _ h

theorem OwnStep.kinv {w : World} {op : Op} {c : CtxId} {x y : Ctx} (hl : OwnStep w op c x y) (h : KInv x) :
    KInv y := by
  cases hl with
  | loc hl => exact hl.kinv h
  | enter => exact h.congr rfl rfl rfl rfl
  | leave =>
    exact (KInv.runTeardown (x := { x with state := .closing, tds := [] }) (h.congr rfl rfl rfl rfl)
      c _ _ _).congr rfl rfl rfl rfl

/-- In a new context nothing has been generated and nothing is in flight; its factories are its parent's. -/
theorem KInv.freshCtx (p : Option CtxId) (px : Option Ctx) (h : ∀ y, px = some y → KInv y) :
    KInv (freshCtx p px) := by
  refine ⟨?_, fun _ _ _ hc => absurd hc (Nat.not_succ_le_zero 0), fun _ => Nat.zero_le 1,
    fun _ hc => absurd hc (Nat.not_succ_le_zero 0), fun _ hp => (nomatch hp)⟩
  cases px with
  | none => exact ⟨fun _ _ hk => (nomatch hk), fun _ _ _ _ hk => (nomatch hk)⟩
  | some y => exact (h y rfl).facwf

theorem reachable_kinv {w : World} (hr : Reachable w) : ∀ c x, w.ctx? c = some x → KInv x :=
  reachable_ctx KInv.freshCtx (fun _ _ _ _ _ hl => hl.kinv) (fun _ _ h => h.congr rfl rfl rfl rfl) hr

end K2
end Asphalt
