/-
The resource table of a context: the invariant `ResOK` of every context of every reachable world (C02_reswf),
what `get_resources` lists (C02_get_all_agrees), and the shape of a lookup's outputs, which ties what the
listeners are told to what the event log records (C18).
-/
import AsphaltProofs.Lemmas.World

namespace Asphalt
open K2

/-- Unique keys, and `ResWF` of C02. -/
def ResOK (res : List (Key × Container)) : Prop :=
  NoDupKeys res ∧ TableWF Container.name Container.types res

theorem ResOK_nil : ResOK [] := ⟨NoDupKeys_nil, fun _ _ h => nomatch h⟩

theorem ResOK_storeAll (cont : Container) (r : List (Key × Container)) (h : ResOK r)
    (hfree : ∀ t ∈ cont.types, alookup ⟨t, cont.name⟩ r = none) :
    ResOK (storeAll cont cont.name cont.types r) :=
  ⟨storeAll_isStore.noDup _ _ _ _ h.1,
   storeAll_isStore.tableWF (name := Container.name) (types := Container.types) h.2 cont hfree⟩

theorem ResOK_filter (r : List (Key × Container)) (h : ResOK r) :
    ResOK (r.filter (fun kc => !kc.2.generated)) := by
  refine ⟨NoDupKeys_filter _ _ h.1, ?_⟩
  intro k cont hk
  obtain ⟨hk', hp⟩ := alookup_filter_inv _ k cont r h.1 hk
  obtain ⟨h1, h2, h3⟩ := h.2 k cont hk'
  exact ⟨h1, h2, fun t ht => alookup_filter_some _ _ _ _ (h3 t ht) hp⟩

theorem ctxAdd_resOK (cid : CtxId) (x : Ctx) (a : AddArgs) (h : ResOK x.res) :
    ResOK (ctxAdd cid x a).1.res := by
  rcases ctxAdd_cases cid x a with ⟨_, e⟩ | ⟨_, o, _, e⟩ | ⟨_, v, _, hfree, e⟩ <;> rw [e]
  · exact h
  · exact h
  · exact ResOK_storeAll ⟨_, addTypes a, a.name, _, _⟩ x.res h (free_of_any_false hfree)

theorem ctxAddFactory_res (cid : CtxId) (x : Ctx) (a : FacArgs) :
    (ctxAddFactory cid x a).1.res = x.res := by
  rcases ctxAddFactory_cases cid x a with ⟨_, e⟩ | ⟨_, o, _, e⟩ | ⟨_, _, _, e⟩ <;> rw [e]

theorem ctxAddFactory_resOK (cid : CtxId) (x : Ctx) (a : FacArgs) (h : ResOK x.res) :
    ResOK (ctxAddFactory cid x a).1.res := by
  rw [ctxAddFactory_res]; exact h

theorem resOK_closed (cid : CtxId) : Closed cid (fun x y => ResOK x.res → ResOK y.res) := by
  refine ⟨fun _ => id, fun h1 h2 h => h2 (h1 h), fun _ _ => id, fun x f v h => ?_, fun _ _ => id⟩
  rw [(storeGenerated_fields cid x f v).2.2.2.2]
  exact ResOK_storeAll ⟨v, _, f.name, f.desc, true⟩ x.res h (freeTypes_free x f)

theorem runTeardown_resOK (cid : CtxId) (cur : Option CtxId) (be : BlockEnd) (st : List Cb) (x : Ctx)
    (h : ResOK x.res) : ResOK (runTeardown cid cur be st x).1.res :=
  (resOK_closed cid).runTeardown (fun x a _ => ctxAdd_resOK cid x a) (ctxAddFactory_resOK cid) cur be st x h

theorem K2.LocalStep.resOK {w : World} {op : Op} {c : CtxId} {x y : Ctx} (hl : LocalStep w op c x y) :
    ResOK x.res → ResOK y.res :=
  (resOK_closed c).localStep (ctxAdd_resOK c) (ctxAddFactory_resOK c) (fun _ _ h => h) hl

theorem reachable_resOK {w : World} (hr : Reachable w) : ∀ c x, w.ctx? c = some x → ResOK x.res := by
  refine reachable_ctx (P := fun x => ResOK x.res) (fun q px h => ?_) (fun w op c x y hown h => ?_)
    (fun _ _ h => h) hr
  · cases px with
    | none => exact ResOK_nil
    | some px => exact ResOK_filter _ (h px rfl)
  · cases hown with
    | loc hl => exact hl.resOK h
    | enter => exact h
    | leave => exact runTeardown_resOK c _ _ _ { x with state := .closing, tds := [] } h

def getAllStep (ty : TypeId) (acc : List (String × Val)) (kc : Key × Container) : List (String × Val) :=
  if kc.2.types.contains ty then ainsert kc.2.name kc.2.val acc else acc

theorem ctxGetAll_eq (x : Ctx) (ty : TypeId) : ctxGetAll x ty = x.res.foldl (getAllStep ty) [] := rfl

theorem alookup_getAllStep (ty : TypeId) (n : String) (acc : List (String × Val)) (kc : Key × Container) :
    alookup n (getAllStep ty acc kc) =
      if (kc.2.types.contains ty && kc.2.name == n) = true then some kc.2.val else alookup n acc := by
  unfold getAllStep
  cases kc.2.types.contains ty
  · rfl
  · simp only [if_true, alookup_ainsert, Bool.true_and, beq_iff_eq]

/-- Later entries overwrite earlier ones; where the entries of type `ty` and name `n` all carry the value `o`, that
is what is listed under `n`. -/
theorem alookup_getAll_fold (ty : TypeId) (n : String) (o : Option Val) (l : List (Key × Container))
    (hall : ∀ kc ∈ l, (kc.2.types.contains ty && kc.2.name == n) = true → o = some kc.2.val)
    (acc : List (String × Val)) :
    alookup n (l.foldl (getAllStep ty) acc) =
      if l.any (fun kc => kc.2.types.contains ty && kc.2.name == n) = true then o else alookup n acc := by
  induction l generalizing acc with
  | nil => rfl
  | cons kc l ih =>
    rw [List.foldl_cons, ih (fun kc' h' => hall kc' (List.mem_cons_of_mem _ h')), alookup_getAllStep,
      List.any_cons]
    by_cases hm : (kc.2.types.contains ty && kc.2.name == n) = true
    · rw [if_pos hm, ← hall kc List.mem_cons_self hm, hm, Bool.true_or, if_pos rfl, ite_self]
    · rw [if_neg hm, Bool.eq_false_iff.mpr hm, Bool.false_or]

theorem alookup_ctxGetAll (x : Ctx) (h : ResOK x.res) (ty : TypeId) (n : String) :
    alookup n (ctxGetAll x ty) = (alookup ⟨ty, n⟩ x.res).map (·.val) := by
  rw [ctxGetAll_eq, alookup_getAll_fold ty n ((alookup ⟨ty, n⟩ x.res).map (·.val))]
  · split
    · rfl
    · next hany =>
      -- what is registered under `(ty, n)` is an entry of that type and name
      cases hl : alookup (⟨ty, n⟩ : Key) x.res with
      | none => rfl
      | some cont =>
        obtain ⟨h1, h2, _⟩ := h.2 _ cont hl
        refine absurd (List.any_eq_true.mpr ⟨(⟨ty, n⟩, cont), alookup_mem _ _ _ hl, ?_⟩) hany
        exact Bool.and_eq_true_iff.mpr ⟨List.contains_iff_mem.mpr h2, beq_iff_eq.mpr h1⟩
  · -- an entry of type `ty` is registered under `(ty, its name)` too
    rintro ⟨k, cont⟩ hkc hm
    obtain ⟨ht, hn⟩ := Bool.and_eq_true_iff.mp hm
    rw [← eq_of_beq hn, (h.2 k cont (alookup_of_mem k cont _ h.1 hkc)).2.2 ty (List.contains_iff_mem.mp ht)]
    rfl

/-- What a lookup answers its caller with (`blocked`: it is suspended; `badOp`: the harness's own refusal): neither
an event nor `called`. -/
def Out.isAnswer : Out → Bool
  | .val _ | .none | .notFound | .asyncError | .blocked | .badOp | .raisedExc _ | .runtimeError _ => true
  | _ => false

theorem Out.ne_ev_of_isAnswer {o : Out} (h : o.isAnswer = true) (c : CtxId) (e : REvent) : o ≠ .ev c e := by
  rintro rfl; cases h

def LookupShape (cid : CtxId) (x : Ctx) (r : Ctx × List Out) : Prop :=
  (∃ o, o.isAnswer = true ∧ r.2 = [o] ∧ r.1.events = x.events) ∨
  (∃ o e, o.isAnswer = true ∧ r.2 = [o, .ev cid e] ∧ r.1.events = x.events ++ [e])

theorem registeredVal_isAnswer (x : Ctx) (k : Key) : (registeredVal x k).isAnswer = true := by
  unfold registeredVal
  split <;> rfl

theorem generate_shape (cid : CtxId) (x : Ctx) (f : Factory) (o : Out) (ho : o.isAnswer = true) :
    LookupShape cid x ((generate cid x f).1, o :: (generate cid x f).2) := by
  unfold generate
  rcases storeGenerated_cases cid (bumpCall x f) f (.gen cid f.fid (countOf f.fid x.callCount)) with
    ⟨_, e⟩ | ⟨_, e⟩ <;> rw [e]
  · exact .inl ⟨o, ho, rfl, rfl⟩
  · exact .inr ⟨o, _, ho, rfl, rfl⟩

theorem ctxGetNowait_shape (cid : CtxId) (x : Ctx) (k : Key) (opt : Bool) :
    LookupShape cid x (ctxGetNowait cid x k opt) := by
  apply ctxGetNowait_cases (LookupShape cid x) <;> intros
  case h5 => exact generate_shape cid x _ _ rfl
  case h6 => exact .inl ⟨_, by cases opt <;> rfl, rfl, rfl⟩
  all_goals exact .inl ⟨_, rfl, rfl, rfl⟩

theorem ctxGet_shape (cid : CtxId) (x : Ctx) (t : TaskId) (k : Key) (opt : Bool) :
    LookupShape cid x (ctxGet cid x t k opt) := by
  apply ctxGet_cases (LookupShape cid x) <;> intros
  case h5 => exact generate_shape cid x _ _ (registeredVal_isAnswer _ k)
  case h6 => exact .inl ⟨_, by cases opt <;> rfl, rfl, rfl⟩
  all_goals exact .inl ⟨_, rfl, rfl, rfl⟩

theorem LookupShape.no_called {cid : CtxId} {x : Ctx} {r : Ctx × List Out} (h : LookupShape cid x r) :
    Out.called ∉ r.2 := by
  rcases h with ⟨o, ho, h2, _⟩ | ⟨o, e, ho, h2, _⟩ <;> rw [h2] <;> intro hm
  · cases List.mem_singleton.mp hm; cases ho
  · rcases List.mem_cons.mp hm with rfl | hm
    · cases ho
    · cases List.mem_singleton.mp hm

end Asphalt
