import AsphaltProofs.Lemmas.Lists
import AsphaltProofs.Lemmas.Assoc
import AsphaltProofs.Props.C17
import AsphaltProofs.Props.C17_laws
import AsphaltProofs.Lemmas.Config
import AsphaltProofs.Props.C16
import AsphaltProofs.Props.C14
import AsphaltProofs.Lemmas.World
import AsphaltProofs.Lemmas.Ops
import AsphaltProofs.Lemmas.Ext
import AsphaltProofs.Lemmas.Cancel
import AsphaltProofs.Props.C01
import AsphaltProofs.Props.C01_mid
import AsphaltProofs.Props.C01_sync
import AsphaltProofs.Props.C13
import AsphaltProofs.Props.C13_siblings
import AsphaltProofs.Props.C13_body
import AsphaltProofs.Props.C04_body
import AsphaltProofs.Props.C03
import AsphaltProofs.Lemmas.Scope
import AsphaltProofs.Props.C02
import AsphaltProofs.Props.C18
import AsphaltProofs.Lemmas.Generation
import AsphaltProofs.Props.C04
import AsphaltProofs.Props.C04_cancel
import AsphaltProofs.Props.C12
import AsphaltProofs.Props.C12_task
import AsphaltProofs.Props.C19
import AsphaltProofs.Lemmas.Signal
import AsphaltProofs.Props.C10
import AsphaltProofs.Props.C11
import AsphaltProofs.Lemmas.Startup
import AsphaltProofs.Props.C05
import AsphaltProofs.Props.C06
import AsphaltProofs.Props.C06_multi
import AsphaltProofs.Props.C06_giveup
import AsphaltProofs.Props.C07
import AsphaltProofs.Lemmas.Runner
import AsphaltProofs.Props.C15
import AsphaltProofs.Lemmas.Deadlock
import AsphaltProofs.Props.C05_deadlock
import AsphaltProofs.Lemmas.Tasks
import AsphaltProofs.Lemmas.Factory
import AsphaltProofs.Props.C08
import AsphaltProofs.Props.C08_late
import AsphaltProofs.Props.C09
import AsphaltProofs.Props.C09_start
